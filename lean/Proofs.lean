import Proofs.Shape
import Proofs.Duration
import Proofs.Timeline
import Proofs.Limits
import Proofs.Steps
import Proofs.SeqInv
import Proofs.Layout
import Proofs.Geometry
import Proofs.Atomic
import Proofs.Protocol
import Proofs.Hamiltonian
import Proofs.Phase
import Proofs.Measure
import Proofs.Waveform
import Proofs.Modulation
import Proofs.Eom
import Proofs.ReplayLog
import Proofs.Codec
import Proofs.RefsInv
import Proofs.Sampler
import Proofs.Conflict
import Proofs.ConflictInv
import Proofs.Pass
import Proofs.EomInv
import Proofs.SwitchFields
import Proofs.Switch
import Proofs.Same
import Proofs.Param
import Proofs.ParamStore
import Proofs.Serialize
import Proofs.CallSpec
import Proofs.ParamReplay
import Proofs.TargetsInv
