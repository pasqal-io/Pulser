/-
  C15 — EOM mode: square pulses, physical off-detuning, buffers, drift correction.

  Stated on the scheduler model.  The list of allowed off-detunings
  (`RydbergEOM.detuning_off_options`, float square roots of the beam light shifts) is an
  oracle parameter of the model; the choice among them, the shape of EOM pulses and idle
  periods, and the buffers are modelled and proved.  The emulator clause (drift correction
  ≡ zero off-detuning) is validated numerically by the harness only.

  `eom_pulses_square` / `eom_blocks_wellformed` are the statements over every reachable state
  (invariant `EIc`, Proofs/EomInv.lean).
-/
import Proofs.Eom
import Proofs.EomInv
import Properties.C02
import Mathlib.Tactic.Ring
namespace Pulser
namespace C15

/-- **The off-detuning is the allowed value closest to the requested optimum** (the first one
on ties, as `argmin`) — see `Pulser.closest_option` in Proofs/Eom.lean, restated here. -/
theorem closest_option (opts : List Rat) (x : Rat) (i : Nat) (h : closestIdx opts x = some i) :
    ∃ hi : i < opts.length,
      (∀ j (hj : j < opts.length), absd opts[i] x ≤ absd opts[j] x) ∧
      (∀ j (hj : j < opts.length), j < i → absd opts[i] x < absd opts[j] x) :=
  Pulser.closest_option opts x i h

/-- The chosen off-detuning is a member of the allowed set. -/
theorem detuning_off_allowed (c : ChanState) (e : EomIn) (d : Rat)
    (h : processEomParams c e = .ok d) : d ∈ e.opts := by
  obtain ⟨_, _, i, _, _, ho, _⟩ := processEomParams_iff.mp h
  exact List.mem_of_getElem? ho

/-- **While idling in EOM mode with a non-zero off-detuning the channel plays a detuned
delay**: `add_delay` appends a constant pulse of zero amplitude and detuning `detuning_off`
carrying the phase of the last pulse — never a plain delay. -/
theorem eom_idle_detuned {ms : Option Nat} {c c' : ChanState} {d : Nat} {b : EomBlock}
    (hb : c.eom.getLast? = some b) (hopen : b.tf = none) (hoff : b.detOff ≠ 0)
    (h : addDelay ms c d = .ok c') :
    ∃ sl p, c'.slots = c.slots ++ [sl] ∧ sl.kind = .pulse p ∧ p.dd = true ∧ p.const = true ∧
      p.amp = 0 ∧ p.det = b.detOff ∧ p.phase = fmtPhase c.lastPulsePhase := by
  obtain ⟨last, d', k, _, _, _, rfl, hk⟩ := addDelay_shape h
  rcases hk with ⟨_, hz⟩ | ⟨b', p, hb', _, _, hm, rfl⟩
  · exact absurd (hz b hb hopen) hoff
  · cases hb.symm.trans hb'
    obtain ⟨_, _, h1, h2, h3, h4, h5⟩ := mkDetunedDelay_spec hm
    exact ⟨_, p, rfl, rfl, h4, h1, h2, h3, h5⟩

/-- Validation keeps the constant-pulse description of a pulse. -/
theorem validate_keeps_setpoint (c : ChanState) (p : PulseIn) (ref : Option Rat) (pr : PulseRec)
    (h : validateAndAdjust c p ref = .ok pr) :
    pr.const = p.const ∧ pr.amp = p.amp ∧ pr.det = p.det ∧ pr.dd = p.dd := by
  obtain ⟨_, _, _, _, rfl⟩ := validateAndAdjust_iff.mp h
  exact ⟨rfl, rfl, rfl, rfl⟩

/-- **Every EOM pulse is square with exactly the block's setpoint**: the pulse that
`add_eom_pulse` hands to the scheduler is the constant pulse `(amp_on, detuning_on)` of the
current (latest) EOM block, and validation keeps those values. -/
theorem eom_pulse_setpoint (c : ChanState) (b : EomBlock) (p : PulseIn) (ref : Option Rat)
    (pr : PulseRec) (hp : p.const = true ∧ p.amp = b.amp ∧ p.det = b.detOn)
    (h : validateAndAdjust c p ref = .ok pr) :
    pr.const = true ∧ pr.amp = b.amp ∧ pr.det = b.detOn := by
  obtain ⟨h1, h2, h3, _⟩ := validate_keeps_setpoint c p ref pr h
  exact ⟨h1.trans hp.1, h2.trans hp.2.1, h3.trans hp.2.2⟩

/-- **Enabling**: the new EOM block starts at the channel's end *after* the fall wait and
the buffer, carries the requested setpoint and the chosen off-detuning, and is open. -/
theorem enable_opens_block {ms : Option Nat} {c : ChanState} {amp detOn detOff : Rat} {sb sw : Bool}
    (h : (enableEom ms c amp detOn detOff sb sw).err = none) :
    ∃ last, (enableEom ms c amp detOn detOff sb sw).c.last = .ok last ∧
      (enableEom ms c amp detOn detOff sb sw).c.eom.getLast? =
        some ⟨last.tf, none, amp, detOn, detOff⟩ := by
  obtain ⟨_, c2, _, _, ⟨_, he⟩ | ⟨last, hl, hc⟩⟩ := enableEom_shape ms c amp detOn detOff sb sw
  · exact absurd h he
  · rw [hc]; exact ⟨last, hl, List.getLast?_concat ..⟩

/-- **Disabling** closes the latest block at the channel's end at that moment. -/
theorem closeLastBlock_spec (l : List EomBlock) (b : EomBlock) (tf : Int) (h : l.getLast? = some b) :
    (closeLastBlock l tf).getLast? = some { b with tf := some tf } ∧
    (closeLastBlock l tf).length = l.length := by
  rw [closeLastBlock_eq l b tf h]
  refine ⟨List.getLast?_concat .., ?_⟩
  have := List.length_pos_of_mem (List.mem_of_getLast? h)
  rw [List.length_append, List.length_dropLast, List.length_singleton]
  exact Nat.sub_add_cancel this

/-- **While a channel is in EOM mode every pulse on it is square with exactly the block's
setpoint, and the idle pulses sit at the block's off-detuning — in every reachable state.**
For every EOM block `b` of every channel (open or closed, the latest setpoint or an earlier
one) and every pulse `p` that starts inside `[b.ti, b.tf)`: both waveforms are constant and
`(amp, det)` is `(b.amp, b.detOn)` or `(0, b.detOff)`.  Whatever the history: failing calls,
oracle answers, setpoint modifications, buffers and retargets included. -/
theorem eom_pulses_square (dev : Device) (nQ : Nat) (hd : DevOk dev) (hde : DevOkE dev)
    (s : SeqState) (hr : C02.Reach dev nQ s) :
    ∀ c ∈ s.chans, ∀ b ∈ c.eom, ∀ sl ∈ c.slots, ∀ p, sl.kind = .pulse p →
      b.ti ≤ sl.ti → (∀ t, b.tf = some t → sl.ti < t) →
      p.const = true ∧ ((p.amp = b.amp ∧ p.det = b.detOn) ∨ (p.amp = 0 ∧ p.det = b.detOff)) := by
  obtain ⟨evs, rfl⟩ := hr
  have h0 : SeqInv (SeqState.init dev nQ) := SeqState.init_all dev nQ
  have he0 : ∀ c ∈ (SeqState.init dev nQ).chans, EIc c := SeqState.init_all dev nQ
  intro c hc b hb sl hsl p hp h1 h2
  exact (runEv_EI (s := SeqState.init dev nQ) hd hde h0 he0 evs c hc).sq sl hsl p hp b hb ⟨h1, h2⟩

/-- **EOM blocks are well formed in every reachable state**: a closed block ended at or before
the channel's current end, only the latest block can be open (so "in EOM mode" means exactly
"the latest block is open"), and a channel without an EOM — a DMM in particular — never has
a block. -/
theorem eom_blocks_wellformed (dev : Device) (nQ : Nat) (hd : DevOk dev) (hde : DevOkE dev)
    (s : SeqState) (hr : C02.Reach dev nQ s) :
    ∀ c ∈ s.chans,
      (∀ b ∈ c.eom, ∀ t, b.tf = some t → t ≤ c.getDuration false) ∧
      (∀ b ∈ c.eom.dropLast, b.tf ≠ none) ∧
      (c.cfg.eom = none → c.eom = []) ∧ (c.cfg.isDmm = true → c.eom = []) := by
  obtain ⟨evs, rfl⟩ := hr
  have h0 : SeqInv (SeqState.init dev nQ) := SeqState.init_all dev nQ
  have he0 : ∀ c ∈ (SeqState.init dev nQ).chans, EIc c := SeqState.init_all dev nQ
  intro c hc
  have h := runEv_EI (s := SeqState.init dev nQ) hd hde h0 he0 evs c hc
  exact ⟨h.closed, h.onlyLast, h.noCfg, fun hd => h.noCfg (h.dmm hd)⟩

/-- **The drift corrected when EOM mode is enabled is the one accumulated over the buffer**: the
phase shift applied by `enable_eom_mode(correct_phase_drift=True)` is `detuning_off` times the length
of the buffer instruction (in µs) — nothing is counted for the wait that precedes the buffer
(repair of F40: the drift used to start at the end of the previous pulse's fall time, i.e.
before the adjusted wait had elapsed).  (Stated on the drift record that `enableEomCommit`
builds, `{ rate := -detOff, ti := max buf.ti 0 }`, written out here.) -/
theorem enable_drift_over_buffer (detOff : Rat) (buf : Slot) (h : 0 ≤ buf.ti) :
    -(({ rate := -detOff, ti := max buf.ti 0 } : Drift).calc buf.tf) =
      detOff * ((buf.tf : Rat) - (buf.ti : Rat)) / 1000 := by
  have hm : max buf.ti 0 = buf.ti := Int.max_eq_left h
  unfold Drift.calc
  simp only [hm]
  ring

/-! ### Non-vacuity -/

example : closestIdx [3, -1, 5/2, 1] 2 = some 2 := by decide +kernel
example : closestIdx [1, 3] 2 = some 0 := by decide +kernel   -- first on ties

def cfgE : ChanCfg :=
  { clock := 4, minDur := 16, rise := 40, pjt := 80,
    eom := some { rise := 20, bufferTime := 80, customBuffer := false } }
def exDev : Device := { chans := [cfgE], dmms := [], reusable := false, maxSeqDur := none }
def eIn : EomIn := { amp := 2, detOn := 1, optimal := -3, opts := [0, -5/2], offSums := [{}, {}] }

/-- enable on a non-empty channel (fall wait + buffer), an EOM pulse, a detuned idle period -/
def exS : SeqState :=
  let s0 := run (SeqState.init exDev 1)
    [.declare (.user 0) 0 none, .add { dur := 100, fallStd := 60, ref := 1 } (.user 0) (some .minDelay)]
  let s1 := { s0 with chans := s0.chans.map fun c =>
    { c with ddOracle := [((-5/2, 80), (0, 30)), ((-5/2, 52), (0, 30))] } }
  run s1 [.enableEom (.user 0) eIn, .addEom (.user 0) 100 0 0 (some .minDelay) false 0 30 2,
          .delay 52 (.user 0) false]

example : (exS.chans.map fun c => (c.slots.map fun s => (s.ti, s.tf, s.isPulse), c.eom.map (·.detOff))) =
    [([(-1, 0, false), (0, 100, true), (100, 160, false), (160, 240, true), (240, 340, true),
       (340, 392, true)], [-5/2])] := by decide +kernel

def exEvs : List Ev :=
  [.call (.declare (.user 0) 0 none),
   .call (.add { dur := 100, fallStd := 60, ref := 1 } (.user 0) (some .minDelay)),
   .oracle (.user 0) (-5/2) 80 0 30, .oracle (.user 0) (-5/2) 52 0 30,
   .call (.enableEom (.user 0) eIn),
   .call (.addEom (.user 0) 100 0 0 (some .minDelay) false 0 30 2),
   .call (.delay 52 (.user 0) false)]

/-- The hypotheses of `eom_pulses_square` are met: the device satisfies `DevOk` and `DevOkE`, the
state is reachable (with two oracle answers arriving as events), it has an open block starting
at 240, and the pulses at 240 (EOM pulse) and 340 (idle pulse at the off-detuning) start inside it. -/
example : DevOk exDev ∧ DevOkE exDev ∧
    C02.Reach exDev 1 (runEv (SeqState.init exDev 1) exEvs) ∧
    ((runEv (SeqState.init exDev 1) exEvs).chans.map fun c =>
        c.eom.map fun b => (b.ti, b.tf, b.amp, b.detOn, b.detOff)) =
      ([[(240, none, 2, 1, -5/2)]] : List (List (Int × Option Int × Rat × Rat × Rat))) ∧
    ((runEv (SeqState.init exDev 1) exEvs).chans.map fun c =>
        (c.slots.filterMap fun sl => sl.pulse?.map fun p => (sl.ti, p.const, p.amp, p.det))) =
      ([[(0, false, 0, 0), (160, true, 0, -5/2), (240, true, 2, 1), (340, true, 0, -5/2)]] :
        List (List (Int × Bool × Rat × Rat))) :=
  ⟨by unfold DevOk; decide, by unfold DevOkE; decide, ⟨exEvs, rfl⟩, by decide +kernel, by decide +kernel⟩

end C15
end Pulser
