/-
  C01 — Every scheduled pulse respects the limits of its channel and device.

  Float-only facts (max / average / rounded detuning of the samples) enter the model as
  the oracle record `PulseSummary`; the theorems hold for every value of it.
  "Finite samples" is the flag `PulseSummary.finite` (oracle: `np.isfinite` over the samples);
  since the repair of F31 `validate_pulse` tests it and `limits_invariant` carries it.
-/
import Proofs.SeqInv
import Properties.C02
namespace Pulser
namespace C01

/-- **Acceptance ⇔ inside every limit.**  `validate_pulse` (channel or DMM) succeeds exactly
when amplitude ≤ max, |detuning| ≤ max, average amplitude not in (0, min_avg) and, on a DMM,
detuning ≤ 0 and above the per-atom and total bottoms given the detuning-map weights — and
every sample is finite (repair of F31: NaN used to pass every comparison). -/
theorem validate_pulse_iff (c : ChanState) (σ : PulseSummary) :
    validatePulse c σ = .ok () ↔ WithinLimits c.cfg c.maxW c.sumW σ :=
  validatePulse_iff c σ

/-- **Undefined limits of virtual channels constrain nothing** (beyond finite samples). -/
theorem virtual_unconstrained (c : ChanState) (σ : PulseSummary) (hf : σ.finite = true)
    (h1 : c.cfg.maxAmp = none) (h2 : c.cfg.maxAbsDet = none) (h3 : c.cfg.minAvgAmp = 0)
    (h4 : c.cfg.isDmm = false) : validatePulse c σ = .ok () := by
  rw [validatePulse_iff]
  refine ⟨hf, fun m hm => (by rw [h1] at hm; cases hm), fun m hm => (by rw [h2] at hm; cases hm), ?_,
    fun h => (by rw [h4] at h; cases h)⟩
  rw [h3]; intro ⟨a, b⟩; exact absurd a (Rat.not_lt.mpr (Rat.le_of_lt b))

/-- ... and on a virtual DMM without bottoms only the sign of the detuning is constrained. -/
theorem virtual_dmm_unconstrained (c : ChanState) (σ : PulseSummary) (hf : σ.finite = true)
    (h1 : c.cfg.maxAmp = none) (h2 : c.cfg.maxAbsDet = none) (h3 : c.cfg.minAvgAmp = 0)
    (h5 : c.cfg.bottom = none) (h6 : c.cfg.totalBottom = none) (h7 : σ.maxDetR ≤ 0) :
    validatePulse c σ = .ok () := by
  rw [validatePulse_iff]
  refine ⟨hf, fun m hm => (by rw [h1] at hm; cases hm), fun m hm => (by rw [h2] at hm; cases hm), ?_,
    fun _ => ⟨h7, fun b hb => (by rw [h5] at hb; cases hb), fun b hb => (by rw [h6] at hb; cases hb)⟩⟩
  rw [h3]; intro ⟨a, b⟩; exact absurd a (Rat.not_lt.mpr (Rat.le_of_lt b))

/-- **Durations: accepted unchanged or lengthened to the next clock multiple.**
`validate_duration d` succeeds with `d'` iff `d ≥ min`, `d'` is the least clock multiple
`≥ d` and `d' ≤ max` (the comparison of the *rounded* value is the repair of F12). -/
theorem validate_duration_spec (c : ChanCfg) (hc : 0 < c.clock) (d d' : Nat) :
    validateDuration c d = .ok d' ↔
      c.minDur ≤ d ∧ (c.clock ∣ d' ∧ d ≤ d' ∧ d' < d + c.clock) ∧ (∀ m, c.maxDur = some m → d' ≤ m) := by
  rw [validateDuration_iff]
  have hs := ceilTo_spec hc d
  constructor
  · rintro ⟨h1, rfl, h3⟩
    exact ⟨h1, ⟨hs.1, hs.2.1, hs.2.2⟩, h3⟩
  · rintro ⟨h1, ⟨h2, h3, h4⟩, h5⟩
    exact ⟨h1, ceilTo_unique hc h2 h3 h4, h5⟩

/-- Unchanged exactly when the requested duration is a clock multiple. -/
theorem validate_duration_unchanged (c : ChanCfg) (hc : 0 < c.clock) (d d' : Nat)
    (h : validateDuration c d = .ok d') : d' = d ↔ c.clock ∣ d := by
  obtain ⟨_, rfl, _⟩ := validateDuration_iff.mp h
  have hs := ceilTo_spec hc d
  exact ⟨fun e => e ▸ hs.1, fun hd => ceilTo_unique hc hd (Nat.le_refl _) (Nat.lt_add_of_pos_right hc)⟩

/-- **Limits invariant.**  In every reachable state every scheduled pulse — added by the
user, an EOM pulse, or a detuned delay inserted by the scheduler — has a duration that
is a clock multiple between the channel's minimum and maximum duration, and every
user/EOM pulse (`ref ≠ 0`) is inside the channel limits that held when it was validated. -/
theorem limits_invariant (dev : Device) (nQ : Nat) (hd : DevOk dev) (s : SeqState)
    (hr : C02.Reach dev nQ s) :
    ∀ c ∈ s.chans, ∀ sl ∈ c.slots, ∀ p, sl.kind = .pulse p →
      c.cfg.clock ∣ p.dur ∧ c.cfg.minDur ≤ p.dur ∧ (∀ m, c.cfg.maxDur = some m → p.dur ≤ m) ∧
      (p.ref ≠ 0 → WithinLimits c.cfg c.maxW c.sumW p.sum) := by
  intro c hc sl hsl p hp
  have hinv := C02.timeline_inv dev nQ hd s hr c hc
  obtain ⟨h1, h2, h3, h4, h5⟩ := InvR_pulse hinv.2 sl (List.mem_reverse.mpr hsl) p hp
  refine ⟨?_, h2, h3.2, h3.1⟩
  -- both ends are clock multiples, hence so is the duration between them
  exact Int.ofNat_dvd.mp ((Int.dvd_add_right h4).mp (h1 ▸ h5))

/-- **The whole sequence never exceeds the device's maximum duration.** -/
theorem seq_duration_invariant (dev : Device) (nQ : Nat) (hd : DevOk dev) (s : SeqState)
    (hr : C02.Reach dev nQ s) :
    ∀ c ∈ s.chans, ∀ sl ∈ c.slots, ∀ m, dev.maxSeqDur = some m → sl.tf ≤ (m : Int) := by
  intro c hc sl hsl m hm
  have hinv := C02.timeline_inv dev nQ hd s hr c hc
  obtain ⟨t0, t1⟩ := C02.timeline_tiles hinv
  obtain ⟨i, hi, rfl⟩ := List.mem_iff_getElem.mp hsl
  cases i with
  | zero => obtain ⟨_, _, h3⟩ := t0 hi; rw [h3]; exact Int.natCast_nonneg m
  | succ k => exact (t1 k hi).2.2.2.1 m hm

/-- **No spurious rejection by the validation step**: a pulse inside every limit whose
duration is acceptable is adjusted (or kept) — never refused — provided its waveforms can
be resized when the duration has to change and the pulse *as lengthened* is still inside
every limit (since the repair of F37 the lengthened pulse is validated too: a Blackman keeps
its area, an interpolated waveform is re-sampled). The scheduled record carries the summary of
the pulse as scheduled. -/
theorem accepts_within_limits (c : ChanState) (p : PulseIn) (r : Option Rat) (d' : Nat)
    (hw : WithinLimits c.cfg c.maxW c.sumW p.sum) (hd : validateDuration c.cfg p.dur = .ok d')
    (hres : d' = p.dur ∨ (p.resizable = true ∧ WithinLimits c.cfg c.maxW c.sumW p.sumAdj)) :
    ∃ pr, validateAndAdjust c p r = .ok pr ∧ pr.dur = d' ∧
      pr.sum = (if d' ≠ p.dur then p.sumAdj else p.sum) := by
  refine ⟨_, validateAndAdjust_iff.mpr ⟨d', (validatePulse_iff c p.sum).mpr hw, hd, fun hdd => ?_, rfl⟩,
    rfl, rfl⟩
  rcases hres with h | h
  · exact absurd h hdd
  · exact ⟨h.1, (validatePulse_iff c p.sumAdj).mpr h.2⟩

/-- **The lengthened pulse is validated as scheduled** (repair of F37): when the duration has
to change, acceptance implies that the summary of the *lengthened* pulse is inside every limit
— and that is the summary the scheduled record carries. -/
theorem adjusted_pulse_validated (c : ChanState) (p : PulseIn) (r : Option Rat) (pr : PulseRec)
    (hc : 0 < c.cfg.clock) (h : validateAndAdjust c p r = .ok pr) :
    WithinLimits c.cfg c.maxW c.sumW pr.sum ∧ (pr.dur ≠ p.dur → pr.sum = p.sumAdj) := by
  have hw := (validateAndAdjust_ok hc h).2.2
  obtain ⟨d, _, _, hres, rfl⟩ := validateAndAdjust_iff.mp h
  refine ⟨?_, fun hne => if_pos hne⟩
  show WithinLimits _ _ _ (if d ≠ p.dur then p.sumAdj else p.sum)
  split
  · rename_i hne; exact (validatePulse_iff c p.sumAdj).mp (hres hne).2
  · exact hw

/-! ### Non-vacuity -/

def exChan : ChanState :=
  { name := .user 0, chId := 0,
    cfg := { clock := 4, minDur := 16, maxDur := some 1002, maxAmp := some 10, maxAbsDet := some 20 } }

example : WithinLimits exChan.cfg exChan.maxW exChan.sumW
    { maxAmp := 10, avgAmp := 5, maxAbsDetR := 20, maxDetR := 20, minDetR := -20 } :=
  (validatePulse_iff exChan _).mp rfl

example : validateDuration exChan.cfg 101 = .ok 104 := by rfl
example : validateDuration exChan.cfg 1001 = .error .durTooLong := by rfl  -- F12 repaired
example : validateDuration exChan.cfg 1000 = .ok 1000 := by rfl

/-- the reachable state of `C02.exOps` contains pulses, so `limits_invariant` speaks about something -/
example : ((run (SeqState.init C02.exDev 2) C02.exOps).chans.map
    (·.slots.filterMap fun s => s.pulse?.map (·.dur))) = [[104, 52]] := by decide +kernel

end C01
end Pulser
