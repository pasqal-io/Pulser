/-
  C11 — Emulation keeps states physical and follows the measurement conventions. (PARTIAL)

  Decided here (over exact rationals, model `PulserModel/Measure.lean`):
    * bitstring conventions of `QutipResult._weights`: atoms in register order, the one-state
      (r / h / d) ↦ 1 and every other state ↦ 0, for every dimension 2, 3, 4           (§2)
    * sampling distributions sum to one                                                 (§2)
    * detection errors: independent bit flips at the configured rates                  (§3)
    * state-preparation errors: the bad atoms loaded for a run are the ones drawn       (§3b)
    * evaluation-time bookkeeping between the V2 backend and the legacy emulator: the
      relative→µs→relative round trip, the matching tolerance, the list handed to
      `set_evaluation_times` (sorted, duplicate free, inside the sequence)              (§6)
    * re-creation of the configuration by `EmulatorBackend.__init__` is idempotent     (§7)

  NOT decided by any theorem (smoke differential in the monitor, labelled a test):
  norm / trace / positivity along `sesolve` / `mesolve`, the Rabi oscillation, zero drive,
  legacy ≡ V2 states — statements about QuTiP's adaptive ODE integrators on float64.

  Only property theorems and their non-vacuity examples live here; lemmas are in
  Proofs/Measure.lean.
-/
import Proofs.Measure
namespace Pulser
namespace C11
open Measure

/-! ## Bitstring conventions -/

/-- **Clause "bitstrings list atoms in register order with the one-state ↦ 1 and every other
state ↦ 0" (dimension 3 and 4: `all`, `*_with_error`, `all_with_error`).**  The un-normalised
weight stored at position `int(b, 2)` is the total probability of the basis states `σ` with
`σᵢ = one ↔ bᵢ = 1`, atom 0 being the first digit of `σ` and the first bit of `b`. -/
theorem weights_convention (c : WCfg) (hd : c.d ≠ 2) (hone : c.oneIdx < c.d) (probs : List Rat)
    (b : List Bool) (hb : b.length = c.n) :
    lookup (rawWeights c probs) (bitsIndex b) = weightSpec c.d c.n c.oneIdx probs b := by
  unfold rawWeights
  simp only [hd, if_false]
  rw [← hb, lookup_map_allBits, weightIx_eq_spec c.d b.length c.oneIdx hone probs b rfl]

/-- The same in dimension 2 for the digital and XY bases (`h`, resp. `d`, is the second basis
vector): `weights = probs`. -/
theorem weights_convention_d2 (n : Nat) (probs : List Rat) (b : List Bool) (hb : b.length = n) :
    lookup (rawWeights ⟨2, n, true, false, 1⟩ probs) (bitsIndex b) = weightSpec 2 n 1 probs b := by
  subst hb
  rw [← weightIx_eq_spec 2 b.length 1 (by omega) probs b rfl]
  simp [rawWeights, weightIx, selStates_two 1 (by omega), index_stateOfBits_one]

/-- The same in dimension 2 for ground-rydberg (`r` is the *first* basis vector, so the code
reverses the array: `weights = probs[::-1]`). -/
theorem weights_convention_d2_gr (n : Nat) (probs : List Rat) (hp : probs.length = 2 ^ n)
    (b : List Bool) (hb : b.length = n) :
    lookup (rawWeights ⟨2, n, true, true, 0⟩ probs) (bitsIndex b) = weightSpec 2 n 0 probs b := by
  subst hb
  rw [← weightIx_eq_spec 2 b.length 0 (by omega) probs b rfl]
  have hlt := bitsIndex_lt b
  simp only [rawWeights, weightIx, selStates_two 0 (by omega), if_true, List.map_cons, List.map_nil,
    List.sum_cons, List.sum_nil, add_zero]
  rw [lookup_reverse _ _ (by omega), index_stateOfBits_zero, hp]

/-- `reverse_is_complement`: the basis state read as `b` in ground-rydberg sits at position
`2ⁿ − 1 − int(b, 2)` — reversing the array is complementing every bit. -/
theorem reverse_is_complement (b : List Bool) :
    index 2 (b.map fun x => if x then 0 else 1) = 2 ^ b.length - 1 - bitsIndex b :=
  index_stateOfBits_zero b

/-- A state whose measurement basis was not addressed reads `00…0` with certainty. -/
theorem weights_not_matching (n : Nat) (gr : Bool) (one : Nat) (p : Rat) (probs : List Rat) :
    rawWeights ⟨2, n, false, gr, one⟩ (p :: probs) = 1 :: probs.map fun _ => 0 := by
  simp [rawWeights]

/-- Non-vacuity: two atoms, ground-rydberg `[rr, rg, gr, gg]`; digital-in-`all` `[r,g,h]²`. -/
example : weights ⟨2, 2, true, true, 0⟩ [1/2, 1/4, 1/8, 1/8] = [1/8, 1/8, 1/4, 1/2] := by decide +kernel
example : weights ⟨3, 2, false, false, 2⟩ [1/9, 1/9, 1/9, 1/9, 1/9, 1/9, 1/9, 1/9, 1/9]
    = [4/9, 2/9, 2/9, 1/9] := by decide +kernel

/-- **Clause "sampling distributions sum to one".**  After the final normalisation the weights
sum to one whenever the un-normalised weights do not sum to zero. -/
theorem weights_sum_one (c : WCfg) (probs : List Rat) (h : (rawWeights c probs).sum ≠ 0) :
    (weights c probs).sum = 1 :=
  normalise_sum_one _ h

/-- ... and before normalisation nothing is lost or counted twice: every basis state is read
as exactly one bitstring (dimension 3, 4). -/
theorem weights_total (c : WCfg) (hd : c.d ≠ 2) (hone : c.oneIdx < c.d) (probs : List Rat) :
    (rawWeights c probs).sum = ((allStates c.d c.n).map fun σ => lookup probs (index c.d σ)).sum := by
  unfold rawWeights
  simp only [hd, if_false]
  exact sum_sel_partition c.d c.oneIdx hone c.n _

/-! ## Detection errors -/

/-- **Clause "detection errors flip bits at the configured rates" (1).**  The flip kernel is a
probability distribution over the detected bitstrings. -/
theorem flip_kernel_sums_one (eps epsp : Rat) (b : List Bool) :
    ((allBits b.length).map (flipKernel eps epsp b)).sum = 1 :=
  flipKernel_sum_one eps epsp b

/-- **(2)** Each detected bit, on its own, is wrong with exactly the configured rate: a true 0 is
read as 1 with probability `eps` (false positive), a true 1 as 0 with probability `epsp`. -/
theorem flip_kernel_marginal (eps epsp : Rat) (b : List Bool) (i : Nat) (hi : i < b.length) (v : Bool) :
    (((allBits b.length).filter fun c => c.getD i false == v).map (flipKernel eps epsp b)).sum =
      flip1 eps epsp (b.getD i false) v :=
  flipKernel_marginal eps epsp v b i hi

example : flip1 (1/10) (1/5) false true = 1/10 ∧ flip1 (1/10) (1/5) true false = 1/5 := by decide +kernel
example : applyKernel 1 (1/10) (1/5) [1/2, 1/2] = [11/20, 9/20] := by decide +kernel

/-! ## State-preparation errors -/

/-- **State preparation (part of "all noise configurations"; legacy ≡ V2 share this path).**  In the
state-preparation-only path of `_noisy_runs` the configuration drawn for a run is turned into a
string (to count identical runs) and back: the atoms loaded as badly prepared are exactly the
ones drawn. -/
theorem state_prep_roundtrip (eta : Rat) (u : List Rat) :
    decodeConfig (encodeConfig (drawBad eta u)) = drawBad eta u :=
  decode_encode _

/-- **Finding F36 (repaired in the tree; a statement about the OLD expression).**
`np.array(list("01")).astype(bool)` is `[True, True]` under numpy 2: every atom was marked badly
prepared in every run, whatever had been drawn. -/
theorem state_prep_old_counterexample :
    decodeConfigOld (encodeConfig (drawBad (3/10) [1/2, 1/10])) = [true, true] ∧
    drawBad (3/10) [1/2, 1/10] = [false, true] := by
  decide +kernel

/-- The configurations carry the product distribution "each atom badly prepared with probability
`eta`, independently": the weights sum to one and each atom is bad with total weight `eta`. -/
theorem state_prep_distribution (eta : Rat) (n : Nat) :
    ((allBits n).map (configWeight eta)).sum = 1 ∧
    ∀ i, i < n → (((allBits n).filter fun c => c.getD i false == true).map (configWeight eta)).sum = eta :=
  ⟨configWeight_sum_one eta n, fun i hi => configWeight_marginal eta n i hi⟩

example : configWeight (3/10) [false, true] = 21/100 := by decide +kernel

/-! ## Evaluation times between the V2 backend and the legacy emulator -/

/-- **Clause "for every … choice of evaluation times" (1).**  Over the rationals the conversion
relative → µs (`rel·T·10⁻³`) → relative (`t/T·10³`) is the identity. -/
theorem eval_time_roundtrip (T : Nat) (hT : T ≠ 0) (rel : Rat) :
    relTime T (rel * ((T : Rat) / 1000)) = rel := by
  exact mul_div_cancel_right₀ rel (div_ne_zero (Nat.cast_ne_zero.mpr hT) (by norm_num))

/-- The end point `T/1000` of every emulation is filed under the relative time 1 (in float64 too,
since `x / x = 1`: repair of finding F52). -/
theorem eval_time_end_point (T : Nat) (hT : T ≠ 0) : relTime T ((T : Rat) / 1000) = 1 := by
  have := eval_time_roundtrip T hT 1
  simpa using this

/-- **(2)** The matching tolerance `0.5/T` used by `Observable.__call__` separates any two
distinct integer-nanosecond instants … -/
theorem tol_separates (T : Nat) (hT : T ≠ 0) (k1 k2 : Nat) (hk : k1 ≠ k2) :
    ¬ absR ((k1 : Rat) / T - (k2 : Rat) / T) ≤ timeTol T := by
  have hTpos : (0 : Rat) < T := Nat.cast_pos.mpr (Nat.pos_of_ne_zero hT)
  -- clear the common denominator: `|k1 - k2| ≤ 1/2`, but distinct integers are at least 1 apart
  rw [timeTol, if_neg hT, absR_le_iff, ← sub_div, ← neg_div, div_le_div_iff_of_pos_right hTpos,
    div_le_div_iff_of_pos_right hTpos, ← abs_le]
  have h1 := Int.cast_le (R := Rat).mpr (Int.one_le_abs (sub_ne_zero.mpr (Nat.cast_injective.ne hk)))
  rw [Int.cast_one, Int.cast_abs, Int.cast_sub, Int.cast_natCast, Int.cast_natCast] at h1
  exact fun h => absurd (h1.trans h) (by norm_num)

/-- … and absorbs any conversion error below half a nanosecond. -/
theorem tol_matches (T : Nat) (rel t : Rat) (h0 : 0 ≤ t) (h1 : t ≤ 1)
    (h : absR (rel - t) ≤ timeTol T) : inTimes t [rel] (timeTol T) = true := by
  rw [inTimes_iff]; exact ⟨h0, h1, rel, by simp, h⟩

/-- **(3) `legacy_eval_times`.**  The list `_get_legacy_evaluation_times` hands to the legacy
emulator (union of the default times — `"Full"` expanded through the sampling indices — and of
every observable's own times, in µs, clipped to the duration) is strictly ascending, hence
duplicate free, and lies inside `[0, T/1000]`. -/
theorem legacy_eval_times (dflt : DefaultTimes) (extras : List Rat) (T m : Nat) (hT : T ≠ 0)
    (hsorted : ∀ l, dflt = .times l → l.Pairwise (· < ·))
    (hd : ∀ l, dflt = .times l → ∀ x ∈ l, 0 ≤ x ∧ x ≤ 1)
    (he : ∀ x ∈ extras, 0 ≤ x ∧ x ≤ 1) (r : List Rat)
    (h : legacyEvalTimes dflt extras T m = some r) :
    r.Pairwise (· < ·) ∧ ∀ x ∈ r, 0 ≤ x ∧ x ≤ (T : Rat) / 1000 := by
  rw [legacyEvalTimes_eq_raw dflt extras T m hT hd he] at h
  exact ⟨legacyEvalTimesRaw_sorted dflt extras T m hT hsorted r h,
    legacyEvalTimesRaw_bounds dflt extras T m hT hd he r h⟩

/-- The clipping added by the repair of finding F30 makes the upper bound unconditional — this is
the statement that also survives float64 rounding (`min(x, b) ≤ b`) — and changes nothing over
the rationals for relative times in `[0, 1]`. -/
theorem legacy_eval_times_clipped (dflt : DefaultTimes) (extras : List Rat) (T m : Nat) :
    (∀ r, legacyEvalTimes dflt extras T m = some r → ∀ x ∈ r, x ≤ (T : Rat) / 1000) ∧
    (T ≠ 0 → (∀ l, dflt = .times l → ∀ x ∈ l, 0 ≤ x ∧ x ≤ 1) → (∀ x ∈ extras, 0 ≤ x ∧ x ≤ 1) →
      legacyEvalTimes dflt extras T m = legacyEvalTimesRaw dflt extras T m) :=
  ⟨fun r h => legacyEvalTimes_le dflt extras T m r h,
   fun hT hd he => legacyEvalTimes_eq_raw dflt extras T m hT hd he⟩

/-- **(4)** Hence `set_evaluation_times` never rejects it ("extends further than sequence
duration"), for *every* duration `T`, and returns it with the two end points.  (Before the repair
of F30 this failed in float64 for 13 % of the durations, e.g. `1.0·52·10⁻³ > 52/1000`.) -/
theorem legacy_pipeline_total (dflt : DefaultTimes) (extras : List Rat) (T m : Nat) (hT : T ≠ 0)
    (hd : ∀ l, dflt = .times l → ∀ x ∈ l, 0 ≤ x ∧ x ≤ 1)
    (he : ∀ x ∈ extras, 0 ≤ x ∧ x ≤ 1) (r : List Rat)
    (h : legacyEvalTimes dflt extras T m = some r) :
    ∃ r', setEvaluationTimes T r = some r' ∧ r'.Pairwise (· < ·) ∧
      ∀ y, y ∈ r' ↔ (y ∈ r ∨ y = 0 ∨ y = (T : Rat) / 1000) :=
  setEvaluationTimes_spec T r (legacyEvalTimesRaw_bounds dflt extras T m hT hd he r
    (legacyEvalTimes_eq_raw dflt extras T m hT hd he ▸ h))

example : legacyEvalTimes (.times [1]) [] 52 52 = some [13/250] ∧
    setEvaluationTimes 52 [13/250] = some [0, 13/250] := by decide +kernel
example : legacyEvalTimes .full [1/2] 8 4 = some [0, 1/500, 1/250, 7/1000] := by decide +kernel

/-! ## Re-creation of the configuration -/

/-- **`config_recreate_idempotent`.**  `EmulatorBackend.__init__` re-creates the configuration
from the options the first construction stored; on the model of `EmulationConfig.__init__`
this always succeeds and changes nothing.  (The tree broke this for ≥ 2 default evaluation
times under numpy 2 — finding F10, repaired: `"Full"` is now compared as a string only.) -/
theorem config_recreate_idempotent (a c : CfgArgs) (h : cfgInit a = .ok c) : cfgInit c = .ok c := by
  cases cfgInit_ok a c h; exact h

example : cfgInit ⟨[1, 2], .times [1/4, 1], false, false, 1, 1⟩
    = .ok ⟨[1, 2], .times [1/4, 1], false, false, 1, 1⟩ := by decide +kernel
example : cfgInit ⟨[1], .times [1, 1/4], false, false, 1, 1⟩ = .error .order := by decide +kernel

end C11
end Pulser
