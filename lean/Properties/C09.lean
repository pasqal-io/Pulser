/-
  C09 — A sequence is exactly the effect of its successful calls.

  `stepRaw` (PulserModel/Sequence.lean) follows the Python statement order and returns the
  state *as the object is left* when a call raises, so atomicity is a statement about the
  model that can fail — and did, for the (operation, error) pairs that were the known findings
  F2.1–F2.19 until they were repaired in /repo (validation before mutation, the declaration
  undone, the scheduler restored when a compound operation is refused halfway); the
  `…_not_atomic_old` witnesses below show what the unwrapped steps leave behind.
-/
import Proofs.Atomic
import Proofs.ReplayLog
import Proofs.RefsInv
import Properties.C02
namespace Pulser
namespace C09

def isQuery : Op → Bool
  | .getDuration .. | .estimate .. | .phaseRef .. => true
  | _ => false

/-- **Read-only operations never change the sequence** (duration and delay-estimate
queries, phase-reference look-ups), whether they return or raise. -/
theorem query_pure (s : SeqState) (op : Op) (h : isQuery op = true) : (stepRaw s op).st = s := by
  have hq : op.isQuery = true := by cases op <;> exact h
  rcases stepRaw_shape s op with ⟨_, hst⟩ | ⟨hn, _⟩
  · exact hst
  · rw [hq] at hn; cases hn

/-- The (operation, error) pairs for which a refused call is proved to leave nothing behind: every
operation and every error, except `noBasis`/`unknownQubit` raised after a pulse was appended, which
no reachable state produces.  (Until the repairs of F2.x — validation before mutation for `delay`,
the declaration undone when its initial target is refused, the scheduler restored when a compound
operation is refused halfway — the complement was the list of known findings F2.1–F2.19.) -/
def early (op : Op) (e : Err) : Bool :=
  match op with
  | .add .. | .addDmm .. | .addEom .. => e != .noBasis && e != .unknownQubit
  | _ => true

/-- **A call that raises leaves the sequence exactly as it was** — for every operation and every
error (`early` only excludes `noBasis` / `unknownQubit` raised by an `add` after the pulse was
appended, which no reachable state produces): `declare_channel` with or without initial target,
`config_detuning_map`, `target`, `add` / `add_eom_pulse` / `add_dmm_detuning`, `delay`, `align`,
`enable_eom_mode`, `modify_eom_setpoint`, `disable_eom_mode`, `phase_shift`, `measure`, and the
queries.  (Before the repairs of F2.x this held only for the errors raised before the first
mutation; the unwrapped steps below show what was left behind.) -/
theorem failed_call_atomic (s : SeqState) (op : Op) (e : Err)
    (h : (stepRaw s op).err = some e) (he : early op e = true) : (stepRaw s op).st = s := by
  refine stepRaw_atomic (P := fun e => e ≠ .noBasis ∧ e ≠ .unknownQubit)
    (fun _ _ _ _ e h hp => addCore_atomic h hp.1 hp.2) op e h fun ha => ?_
  cases op
  case add | addDmm | addEom => exact ((Bool.and_eq_true _ _).mp he).imp bne_iff_ne.mp bne_iff_ne.mp
  all_goals cases ha

/-! ### Reachable states: no exception at all -/

theorem phaseShift_ok {s : SeqState} {phi : Rat} {qs : List Nat} {b : Basis}
    (hb : (s.getRefs b).isSome = true) (hq : ∀ q ∈ qs, q < s.nQ) :
    (s.phaseShift phi qs b).err = none := by
  unfold SeqState.phaseShift
  have h1 : ¬ (s.getRefs b).isNone = true := by
    rw [Option.isNone_iff_eq_none]; exact Option.isSome_iff_ne_none.mp hb
  rw [if_neg h1]
  simp only
  have h2 : ¬ ((if qs.isEmpty = true then s.allQubits else qs).any fun x => decide (x ≥ s.nQ)) = true := by
    intro h
    obtain ⟨q, hqm, hqge⟩ := List.any_eq_true.mp h
    have hge : q ≥ s.nQ := by simpa using hqge
    by_cases he : qs.isEmpty = true
    · rw [if_pos he] at hqm
      exact Nat.not_lt.mpr hge (List.mem_range.mp hqm)
    · rw [if_neg he] at hqm
      exact Nat.not_lt.mpr hge (hq q hqm)
  rw [if_neg h2]
  rfl

/-- `_add` on a state whose channel's basis is addressed and whose targets are atoms of the register:
whatever it raises, nothing has been changed. -/
theorem addCore_atomic_ok {s : SeqState} {p : PulseIn} {n : ChName} {proto : Option Protocol}
    {drift : Option Drift} {e : Err} (h : (addCore s p n proto drift).err = some e)
    (hbas : ∀ c, s.getChan n = some c → Keys.HasB c.cfg.basis s)
    (htg : ∀ c, s.getChan n = some c → TgtOk s.nQ c) : (addCore s p n proto drift).st = s := by
  rcases addCore_err_cases h with h | ⟨c, c', last, t, total, hc, hl, h⟩
  · exact h
  · -- the post-phase-shift cannot fail here
    have hb0 : Keys.HasB c.cfg.basis
        ((s.setChan c').mapRefs c.cfg.basis last.targets (·.updateLastUsed t)) :=
      Keys.mapRefs_hasB _ _ _ (hbas c hc)
    have hm := mapRefs_chans (s.setChan c') c.cfg.basis last.targets (·.updateLastUsed t)
    rw [phaseShift_ok ((Keys.hasB_iff _).mp hb0) fun q hq => by
      rw [hm.2.2]; exact htg c hc _ (last_tgts hl) q hq] at h
    cases h

/-- **On every reachable sequence a call that raises leaves the sequence exactly as it was** — every
operation, every error, no exception: in a reachable state the basis of every declared channel has
its phase references and every instruction acts on atoms of the register (`BasesOk`, `TgtOk`:
Proofs/RefsInv.lean, Proofs/TargetsInv.lean), so the only errors `failed_call_atomic` leaves out
cannot be raised after the pulse was appended. -/
theorem failed_call_atomic_reachable (dev : Device) (nQ : Nat) (hd : DevOk dev) (s : SeqState)
    (hr : C02.Reach dev nQ s) (op : Op) (e : Err) (h : (stepRaw s op).err = some e) :
    (stepRaw s op).st = s := by
  obtain ⟨evs, rfl⟩ := hr
  have h0 : SeqInv (SeqState.init dev nQ) := SeqState.init_all dev nQ
  have hb : BasesOk (runEv (SeqState.init dev nQ) evs) :=
    runEv_bases _ evs (SeqState.init_all dev nQ)
  have ht : ∀ c ∈ (runEv (SeqState.init dev nQ) evs).chans, TgtOk nQ c :=
    runEv_TG (s := SeqState.init dev nQ) hd h0 rfl (SeqState.init_all dev nQ) evs
  have hnq : (runEv (SeqState.init dev nQ) evs).nQ = nQ :=
    runEv_nQ (s := SeqState.init dev nQ) hd h0 evs
  generalize runEv (SeqState.init dev nQ) evs = s at *
  exact stepRaw_atomic (P := fun _ => True)
    (fun _ n _ _ e h _ => addCore_atomic_ok h (fun c hc => hb c (getChan_mem hc).1)
      (fun c hc => by rw [hnq]; exact ht c (getChan_mem hc).1)) op e h fun _ => trivial

/-- Every call of the history succeeds (queries included) and meets `NodupOpts`. -/
def AllOk : SeqState → List Op → Prop
  | _, [] => True
  | s, op :: rest => (stepRaw s op).err = none ∧ NodupOpts op ∧ AllOk (stepRaw s op).st rest

/-- **The state of a sequence is reproducible from its record of successful calls.**
For every history of successful calls from a fresh sequence, replaying the recorded calls
(`_calls`: each building call as stored — `enable_eom_mode` / `modify_eom_setpoint` with the
off-detuning that was chosen; queries are not recorded) on a fresh sequence of the same device
and register yields exactly the same state.  This is what `build()` of a non-parametrized
sequence and `switch_register` to an identical register do.
(Histories in which calls raise: `replay_log_with_refusals`, `replay_log_total`.) -/
theorem replay_log (dev : Device) (nQ : Nat) (ops : List Op) (h : AllOk (SeqState.init dev nQ) ops) :
    run (SeqState.init dev nQ) (run (SeqState.init dev nQ) ops).calls = run (SeqState.init dev nQ) ops := by
  have key : ∀ (ops : List Op) (s : SeqState), Replayable dev nQ s → AllOk s ops →
      Replayable dev nQ (run s ops) := by
    intro ops
    induction ops with
    | nil => exact fun _ hs _ => hs
    | cons op rest ih => exact fun s hs ⟨h1, h2, h3⟩ => ih _ (hs.step op h2 h1) h3
  exact (key ops _ ⟨rfl, rfl, rfl⟩ h).2.2

/-- Every call of the history either succeeds or is refused with an error of the atomic class
(`early`): what a user does when a call raises — catch the exception and carry on. -/
def AllOkOrRefused : SeqState → List Op → Prop
  | _, [] => True
  | s, op :: rest =>
    (((stepRaw s op).err = none ∧ NodupOpts op) ∨ ∃ e, (stepRaw s op).err = some e ∧ early op e = true) ∧
      AllOkOrRefused (stepRaw s op).st rest

/-- **A sequence is exactly the effect of its successful calls** — also when calls were refused in
between: for every history in which each call either succeeds or raises an error of the atomic
class, the state equals the replay of the recorded (successful) calls on a fresh sequence.
(`replay_log` is the special case without refusals.) -/
theorem replay_log_with_refusals (dev : Device) (nQ : Nat) (ops : List Op)
    (h : AllOkOrRefused (SeqState.init dev nQ) ops) :
    run (SeqState.init dev nQ) (run (SeqState.init dev nQ) ops).calls = run (SeqState.init dev nQ) ops := by
  have key : ∀ (ops : List Op) (s : SeqState), Replayable dev nQ s → AllOkOrRefused s ops →
      Replayable dev nQ (run s ops) := by
    intro ops
    induction ops with
    | nil => exact fun _ hs _ => hs
    | cons op rest ih =>
      intro s hs ⟨h12, h3⟩
      refine ih (stepRaw s op).st ?_ h3
      rcases h12 with ⟨h1, h2⟩ | ⟨e, he, hearly⟩
      · exact hs.step op h2 h1
      · -- the refused call left nothing behind
        rw [failed_call_atomic s op e he hearly]; exact hs
  exact (key ops _ ⟨rfl, rfl, rfl⟩ h).2.2

/-- One more API call keeps a state reachable. -/
theorem reach_step {dev : Device} {nQ : Nat} {s : SeqState} (hr : C02.Reach dev nQ s) (op : Op) :
    C02.Reach dev nQ (stepRaw s op).st := by
  obtain ⟨evs, rfl⟩ := hr
  refine ⟨evs ++ [Ev.call op], ?_⟩
  unfold runEv
  rw [List.foldl_append]
  rfl

/-- **The state of a sequence is reproducible from its record of successful calls — for every history
of calls whatsoever**: whatever is called on a fresh sequence (any operations, any arguments, calls that
succeed and calls that are refused for any reason, in any order), the state equals the replay of the
recorded calls on a fresh sequence.  No hypothesis on the history is left except that the list of
allowed off-detunings handed to an EOM call has no duplicates (`NodupOpts`, a well-formedness condition
on the oracle data of the model, which the implementation's `detuning_off_options` meets). -/
theorem replay_log_total (dev : Device) (nQ : Nat) (hd : DevOk dev) (ops : List Op)
    (hn : ∀ op ∈ ops, NodupOpts op) :
    run (SeqState.init dev nQ) (run (SeqState.init dev nQ) ops).calls = run (SeqState.init dev nQ) ops := by
  have key : ∀ (ops : List Op) (s : SeqState), C02.Reach dev nQ s → Replayable dev nQ s →
      (∀ op ∈ ops, NodupOpts op) → Replayable dev nQ (run s ops) := by
    intro ops
    induction ops with
    | nil => exact fun _ _ hs _ => hs
    | cons op rest ih =>
      intro s hr hs hno
      refine ih (stepRaw s op).st (reach_step hr op) ?_ fun o ho => hno o (List.mem_cons_of_mem _ ho)
      cases herr : (stepRaw s op).err with
      | none => exact hs.step op (hno op List.mem_cons_self) herr
      | some e => rw [failed_call_atomic_reachable dev nQ hd s hr op e herr]; exact hs
  exact (key ops _ ⟨[], rfl⟩ ⟨rfl, rfl, rfl⟩ hn).2.2

/-! ### What the repairs of F2.x changed: the unwrapped steps were not atomic -/

def exCfg : ChanCfg := { clock := 4, minDur := 16, rise := 120, pjt := 240 }
def exDev : Device := { chans := [exCfg], dmms := [], reusable := false, maxSeqDur := none }

/-- a pulse with a 240 ns fall time has been added -/
def sPulse : SeqState :=
  run (SeqState.init exDev 1)
    [.declare (.user 0) 0 none, .add { dur := 100, fallStd := 240, ref := 1 } (.user 0) (some .minDelay)]

/-- F2.1, as it was: on the unchecked path (`_delay` without the duration pre-check)
`delay(3, at_rest=True)` raises (3 < min_duration) but the 240 ns fall-time wait stays. -/
theorem delay_at_rest_not_atomic_old :
    (delayCore sPulse 3 (.user 0) true).err = some .durTooShort ∧
    (delayCore sPulse 3 (.user 0) true).st ≠ sPulse := by decide +kernel

/-- ... and after the repair (the duration is validated before the fall wait is appended) the
refused call leaves the sequence as it was. -/
theorem delay_at_rest_atomic :
    (stepRaw sPulse (.delay 3 (.user 0) true)).err = some .durTooShort ∧
    (stepRaw sPulse (.delay 3 (.user 0) true)).st = sPulse := by decide +kernel

/-- F2.9, repaired: `declare_channel(initial_target=[])` raises and nothing stays declared (the
channel used to stay behind: the declaration is rolled back when the target is refused). -/
theorem declare_bad_target_atomic :
    let dev : Device := { chans := [{ exCfg with isLocal := true }], dmms := [], reusable := false,
                          maxSeqDur := none }
    (stepRaw (SeqState.init dev 2) (.declare (.user 0) 0 (some []))).err = some .emptyTargets ∧
    ((stepRaw (SeqState.init dev 2) (.declare (.user 0) 0 (some []))).st = SeqState.init dev 2) := by
  decide +kernel

/-- F2.3, as it was: `delay(d, at_rest=True)` refused because the *sequence* becomes too long kept
the wait for the fall time (the scheduler step without the restoring wrapper). -/
theorem delay_over_max_seq_not_atomic_old :
    let dev : Device := { exDev with maxSeqDur := some 400 }
    let s := run (SeqState.init dev 1)
      [.declare (.user 0) 0 none, .add { dur := 100, fallStd := 240, ref := 1 } (.user 0) (some .minDelay)]
    (delayChecked s 100 (.user 0) true).err = some .overMaxSeq ∧
    (delayChecked s 100 (.user 0) true).st ≠ s := by
  decide +kernel

/-- ... and repaired: the refused call leaves the sequence as it was. -/
theorem delay_over_max_seq_atomic :
    let dev : Device := { exDev with maxSeqDur := some 400 }
    let s := run (SeqState.init dev 1)
      [.declare (.user 0) 0 none, .add { dur := 100, fallStd := 240, ref := 1 } (.user 0) (some .minDelay)]
    (stepRaw s (.delay 100 (.user 0) true)).err = some .overMaxSeq ∧
    (stepRaw s (.delay 100 (.user 0) true)).st = s := by
  decide +kernel

/-! ### Non-vacuity -/
/-- the hypotheses of `failed_call_atomic_reachable` are met by the example device and a state reached
by two calls, on which a refused call exists (`delay_at_rest_atomic`) -/
example : DevOk exDev ∧ C02.Reach exDev 1 sPulse :=
  ⟨by unfold DevOk; decide, C02.Reach.of_run _ _ _⟩

/-- a history with a refused call in between (a delay below the minimum duration) meets the
hypothesis of `replay_log_with_refusals` -/
example : AllOkOrRefused (SeqState.init exDev 1)
    [.declare (.user 0) 0 none, .add { dur := 100, fallStd := 240, ref := 1 } (.user 0) (some .minDelay),
     .delay 3 (.user 0) true, .delay 100 (.user 0) true] := by
  refine ⟨.inl ⟨by decide +kernel, trivial⟩, .inl ⟨by decide +kernel, trivial⟩,
    .inr ⟨.durTooShort, by decide +kernel, by decide⟩, .inl ⟨by decide +kernel, trivial⟩, trivial⟩

example : AllOk (SeqState.init exDev 1)
    [.declare (.user 0) 0 none, .add { dur := 100, fallStd := 240, ref := 1 } (.user 0) (some .minDelay),
     .getDuration none true, .delay 100 (.user 0) true] := by
  refine ⟨by decide +kernel, trivial, by decide +kernel, trivial, by decide +kernel, trivial,
    by decide +kernel, trivial, trivial⟩

example : (stepRaw sPulse (.add { dur := 3, ref := 2 } (.user 0) (some .minDelay))).err
    = some .durTooShort := by decide +kernel
example : early (.add { dur := 3, ref := 2 } (.user 0) (some .minDelay)) .durTooShort = true := by
  decide

end C09
end Pulser
