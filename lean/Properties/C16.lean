/-
  C16 — Waveforms and pulses honour their defining contracts  (PARTIAL, level "other").

  Only property theorems (and their non-vacuity examples) live here; helper lemmas are in
  Proofs/Waveform.lean.  Model: PulserModel/Waveform.lean — waveforms idealised to ℚ.

  What these theorems do NOT cover (validated numerically by harness/props/C16.py, listed as
  `uncovered_clauses` in the evidence): the float values of `np.blackman`, `np.kaiser`, PCHIP /
  `interp1d`, float rounding anywhere, the Kaiser `from_max_val` search, `__eq__` through
  `np.isclose`.  The Blackman window enters only through its sum `S N` and peak `peak N`.

  A division with a possibly-zero divisor is `divQ?` in the model (`none` = numpy's nan/inf), so
  no statement below silently relies on Lean's `x / 0 = 0`.

  Repairs of /repo mirrored here: b1aea695 (one-sample ramp), e02d4356 (two-sample Blackman),
  c5791488 (ArbitraryPhase on one sample).  The theorems named `…_old` are statements about the
  formulas as they were before those commits (findings F6.1–F6.3), kept as documentation.
-/
import Proofs.Waveform
import Proofs.Phase
namespace Pulser
namespace C16
open Wave

/-- **Index semantics.**  `_check_index` accepts exactly `-d ≤ i < d` and returns Python's
position: `i` itself when non-negative, `d + i` when negative. -/
theorem check_index_spec (d : Nat) (i : Int) (j : Nat) :
    (checkIndex d i = some j ↔
      ((0 ≤ i ∧ i < d ∧ (j : Int) = i) ∨ (i < 0 ∧ -(d : Int) ≤ i ∧ (j : Int) = d + i))) ∧
    (checkIndex d i = none ↔ (i < -(d : Int) ∨ (d : Int) ≤ i)) := by
  unfold checkIndex
  by_cases h : i < -(d : Int) ∨ i ≥ (d : Int)
  · rw [if_pos h]; exact ⟨iff_of_false nofun (by omega), iff_of_true rfl h⟩
  · rw [if_neg h, Option.some.injEq]
    obtain ⟨hlo, hhi⟩ := not_or.1 h
    refine ⟨?_, iff_of_false nofun h⟩
    -- `toNat` loses nothing on either branch, and the sign of `i` leaves one case on the right
    by_cases h0 : i ≥ 0
    · rw [if_pos h0, toNat_eq_iff h0, or_iff_left fun e => absurd h0 (Int.not_le.2 e.1),
        and_iff_right h0, and_iff_right (Int.not_le.1 hhi)]
    · rw [if_neg h0, toNat_eq_iff (by omega), or_iff_right fun e => h0 e.1,
        and_iff_right (Int.not_le.1 h0), and_iff_right (Int.not_lt.1 hlo)]

example : checkIndex 5 (-2) = some 3 ∧ checkIndex 5 5 = none ∧ checkIndex 5 (-6) = none := by decide +kernel

/-- **Slice semantics.**  `_check_slice` raises exactly for a step other than `None`/`1`, and
otherwise returns CPython's adjusted bounds (`None`, negative and out-of-range start/stop), with
an empty range reported as `stop = start`; the bounds are ordered and inside the waveform. -/
theorem check_slice_spec (d : Nat) (a b st : Option Int) (s e : Nat) :
    (checkSlice d a b st = some (s, e) ↔
      (st = none ∨ st = some 1) ∧ (s : Int) = pyAdjust d a 0 ∧
      (e : Int) = max (pyAdjust d a 0) (pyAdjust d b d)) ∧
    (checkSlice d a b st = some (s, e) → s ≤ e ∧ e ≤ d) := by
  refine ⟨checkSlice_spec d a b st s e, fun h => ?_⟩
  obtain ⟨_, h1, h2⟩ := (checkSlice_spec d a b st s e).mp h
  have hA := pyAdjust_range d a 0 ⟨Int.le_refl 0, Int.natCast_nonneg d⟩
  have hB := pyAdjust_range d b d ⟨Int.natCast_nonneg d, Int.le_refl d⟩
  omega

example : checkSlice 10 (some (-3)) none none = some (7, 10) ∧
    checkSlice 10 (some 8) (some 2) (some 1) = some (8, 8) ∧
    checkSlice 10 (some (-50)) (some 50) none = some (0, 10) ∧
    checkSlice 10 none none (some 2) = none := by decide +kernel

/-- The samples a slice returns are those at positions `start … stop-1` of the Python reading of
the slice, in order. -/
theorem slice_elements (l : List Rat) (a b st : Option Int) (r : List Rat)
    (h : getSlice l a b st = some r) :
    r.length = (max (pyAdjust l.length a 0) (pyAdjust l.length b l.length)
                  - pyAdjust l.length a 0).toNat ∧
    ∀ k, k < r.length → r[k]? = l[(pyAdjust l.length a 0).toNat + k]? := by
  obtain ⟨⟨s, e⟩, hc, rfl⟩ := Option.map_eq_some_iff.mp h
  obtain ⟨_, h1, h2⟩ := (checkSlice_spec _ a b st s e).mp hc
  obtain ⟨_, h4⟩ := (check_slice_spec _ a b st s e).2 hc
  rw [sliceList_length l s e h4]
  refine ⟨by rw [← h2, ← h1, Int.toNat_sub], fun k hk => ?_⟩
  rw [sliceList_getElem? l s e k hk, ← h1, Int.toNat_natCast]

/-- Indexing returns the sample at Python's position. -/
theorem index_element (l : List Rat) (i : Int) (x : Rat) (h : getIndex l i = some x) :
    (0 ≤ i ∧ l[i.toNat]? = some x) ∨ (i < 0 ∧ l[((l.length : Int) + i).toNat]? = some x) := by
  unfold getIndex at h
  cases hc : checkIndex l.length i with
  | none => rw [hc] at h; cases h
  | some j =>
    rw [hc] at h
    rcases (check_index_spec _ i j).1.mp hc with ⟨h0, _, rfl⟩ | ⟨h0, _, hj⟩
    · exact .inl ⟨h0, h⟩
    · exact .inr ⟨h0, by rwa [← hj, Int.toNat_natCast]⟩

/-- **Exactly `duration` samples** — whenever the samples are defined (finite) at all. -/
theorem samples_length (w : Wf) (s : List Rat) (h : w.samples? = some s) : s.length = w.duration :=
  samples?_length w s h

/-- Constant and custom waveforms take the documented values. -/
theorem constant_custom_values (d : Nat) (v : Rat) (xs : List Rat) :
    (Wf.const d v).samples? = some (List.replicate d v) ∧ (Wf.custom xs).samples? = some xs := by
  simp [Wf.samples?]

/-- The duration of a composite is the sum of the durations of its parts. -/
theorem composite_duration (ws : List Wf) :
    (Wf.composite ws).duration = (ws.map Wf.duration).sum := by
  simp only [Wf.duration]; exact durationList_eq ws

/-- The samples of a composite are the concatenation of the samples of its parts (and are
defined iff all of them are). -/
theorem composite_samples (ws : List Wf) :
    (Wf.composite ws).samples? = (ws.mapM Wf.samples?).map List.flatten := by
  simp only [Wf.samples?]; exact samplesList?_eq ws

example : (Wf.composite [.const 2 1, .ramp 3 0 1, .custom [5]]).samples?
    = some [1, 1, 0, (1 : Rat) / 2, 1, 5] := by decide +kernel

/-- **Ramp values.**  For `d ≥ 2` the samples are defined, sample `i` is
`start + i·(stop − start)/(d − 1)` (the `np.clip` never bites), the first is `start` and the last
is `stop`.  (`d ≥ 2` because the formula mentions `d − 1`; `d = 1` is `ramp_defined`.) -/
theorem ramp_values (d : Nat) (a b : Rat) (hd : 2 ≤ d) :
    ∃ s, (Wf.ramp d a b).samples? = some s ∧ s.length = d ∧
      (∀ i, i < d → s[i]? = some (a + (i : Rat) * (b - a) / ((d : Rat) - 1))) ∧
      s[0]? = some a ∧ s[d - 1]? = some b := by
  refine ⟨rampIdeal d a b, rampSamples?_eq_ideal a b hd,
    by rw [rampIdeal, List.length_map, List.length_range], fun i hi => rampIdeal_getElem? a b hi, ?_, ?_⟩
  · rw [rampIdeal_getElem? a b (by omega), Nat.cast_zero, zero_mul, zero_div, add_zero]
  · rw [rampIdeal_getElem? a b (Nat.sub_lt (Nat.zero_lt_of_lt hd) Nat.one_pos), cast_pred hd,
      mul_div_cancel_left₀ _ (cast_pred_pos hd).ne', add_sub_cancel]

/-- **Every ramp has defined samples** (since /repo b1aea695 the slope divides by
`max(d − 1, 1)`): exactly `d` of them, starting at `start`; the one-sample ramp is `[start]`. -/
theorem ramp_defined (d : Nat) (a b : Rat) :
    (∃ s, (Wf.ramp d a b).samples? = some s ∧ s.length = d) ∧
    (Wf.ramp 1 a b).samples? = some [a] := by
  simp only [Wf.samples?]
  exact ⟨⟨_, rampSamples?_eq d a b, rampSamples?_length (rampSamples?_eq d a b)⟩,
    rampSamples?_one a b⟩

/-- **F6.1, about the old formula** (`slope = (stop − start)/(d − 1)`, before /repo b1aea695): at
`d = 1` it divides by zero whatever `start` and `stop` are — the accepted one-sample ramp had
no finite sample (`[nan]` in numpy). -/
theorem ramp_one_counterexample_old (a b : Rat) :
    (Wf.ramp 1 a b).valid = true ∧ rampSamplesOld? 1 a b = none :=
  ⟨rfl, rampSamplesOld?_one a b⟩

/-- **Window area.**  A Blackman/Kaiser waveform whose samples are defined integrates to the
requested area, whatever the window values are; and the samples are undefined exactly when the
window sums to zero. -/
theorem window_integral (be : Option Rat) (norm : List Rat) (area : Rat) :
    (∀ s, (Wf.window be norm area).samples? = some s → s.sum / 1000 = area) ∧
    ((Wf.window be norm area).samples? = none ↔ norm.sum = 0) := by
  simp only [Wf.samples?]
  exact ⟨fun s h => windowSamples?_sum h, windowSamples?_none_iff norm area⟩

/-- **F6.2, about the old window.**  `np.blackman(2)` clipped at 0 is `[0, 0]`; normalising it
(as the code did before /repo e02d4356) gives no finite sample (0/0), although the constructor
accepts the duration.  Since the repair a Blackman window of at most two samples is flat, and then
the samples are defined with the requested area (`window_integral`). -/
theorem blackman_two_counterexample_old (area : Rat) :
    (Wf.window none [0, 0] area).valid = true ∧ (Wf.window none [0, 0] area).samples? = none ∧
    (Wf.window none [1, 1] area).samples? = some [area / 2 * 1000, area / 2 * 1000] := by
  refine ⟨rfl, ?_, ?_⟩
  · rw [(window_integral none [0, 0] area).2]; simp
  · simp only [Wf.samples?, windowSamples?, divQ?]
    norm_num

example : (Wf.window none [0, 1, 0] 2).samples? = some [0, 2000, 0] := by decide +kernel

/-- **Scaling** multiplies every sample (and keeps the duration and definedness). -/
theorem scale_mul (w : Wf) (k : Rat) :
    (w.scale k).duration = w.duration ∧
    (w.scale k).samples? = w.samples?.map (List.map (· * k)) :=
  ⟨scale_duration k w, scale_samples? k w⟩

/-- **Negation** negates every sample. -/
theorem scale_neg (w : Wf) : w.neg.samples? = w.samples?.map (List.map (- ·)) := by
  rw [Wf.neg, scale_samples?, funext fun x : Rat => mul_neg_one x]

/-- **Division** is defined iff the divisor is non-zero and then divides every sample. -/
theorem scale_div (w : Wf) (k : Rat) :
    (w.div? k = none ↔ k = 0) ∧
    (k ≠ 0 → ∃ w', w.div? k = some w' ∧ w'.duration = w.duration ∧
      w'.samples? = w.samples?.map (List.map (· / k))) :=
  ⟨div?_none_iff w k, fun hk => div?_samples w hk⟩

example : ((Wf.composite [.ramp 3 0 1, .const 2 4]).scale (-2)).samples?
    = some [0, -1, -2, -8, -8] := by decide +kernel

/-- **Changing the duration** keeps the defining parameters and yields the new duration. -/
theorem change_duration_keeps_params (w w' : Wf) (new : Nat) (nn : List Rat)
    (h : w.changeDuration? new nn = some w') : w'.params = w.params ∧ w'.duration = new := by
  cases w with
  | const d v => cases h; exact ⟨rfl, rfl⟩
  | ramp d a b => cases h; exact ⟨rfl, rfl⟩
  | custom xs => cases h
  | composite ws => cases h
  | window be n area =>
    rw [Wf.changeDuration?] at h
    by_cases hl : nn.length = new
    · rw [if_pos hl] at h; cases h; cases be <;> exact ⟨rfl, hl⟩
    · rw [if_neg hl] at h; cases h

example : (Wf.ramp 5 1 2).changeDuration? 9 [] = some (.ramp 9 1 2) := rfl

/-- **Phase range** (for the rational stand-in of `2*np.pi` of `fmtPhase`): `0 ≤ φ mod 2π < 2π`. -/
theorem pulse_phase_range (x : Rat) : 0 ≤ fmtPhase x ∧ fmtPhase x < twoPi := fmtPhase_range x

/-- **Pulse invariants**: an accepted pulse has equal-length waveforms, no negative amplitude
sample, and both phases in `[0, 2π)`. -/
theorem pulse_valid (amp det : List Rat) (ph post : Rat) (p : PulseM)
    (h : mkPulse amp det ph post = some p) :
    p.amp.length = p.det.length ∧ (∀ x ∈ p.amp, 0 ≤ x) ∧
    (0 ≤ p.phase ∧ p.phase < twoPi) ∧ (0 ≤ p.post ∧ p.post < twoPi) := by
  rw [mkPulse_eq] at h
  split at h
  · rename_i hc
    cases h
    exact ⟨hc.1.symm, hc.2, fmtPhase_range _, fmtPhase_range _⟩
  · cases h

example : (mkPulse [1, 2] [0, 0] (-1) 0).map (·.phase) = some (twoPi - 1) ∧
    mkPulse [1, -2] [0, 0] 0 0 = none ∧ mkPulse [1] [0, 0] 0 0 = none := by decide +kernel

/-- **A pulse is refused exactly when it must be**: `Pulse.__init__` accepts iff the two waveforms
have the same duration and no amplitude sample is negative (whatever the phases). -/
theorem pulse_accepted_iff (amp det : List Rat) (ph post : Rat) :
    (mkPulse amp det ph post).isSome ↔ (det.length = amp.length ∧ ∀ x ∈ amp, 0 ≤ x) := by
  rw [mkPulse_eq]
  split
  · rename_i h; exact iff_of_true rfl h
  · rename_i h; exact iff_of_false (by simp) h

/-- **Arbitrary phase (general branch).**  With `δ = pad(−diff(φ)·10³, (1,0), edge)` and
`φ_c = φ[0] + δ[0]·10⁻³`, the phase modulation `φ_c − cumsum(δ·10⁻³)` reproduces `φ` at every
sample (unreduced phases; the `% 2π` of `Pulse.__init__` is `pulse_phase_range`). -/
theorem arbitrary_phase_reconstructs (phi det : List Rat) (h : arbDetuning? phi = some det) :
    det.length = phi.length ∧ phaseModulation (arbPhaseC phi det) det = phi := by
  have h2 := arb_reconstructs h
  refine ⟨?_, h2⟩
  have : (phaseModulation (arbPhaseC phi det) det).length = det.length := by
    simp [phaseModulation, cumsumFrom_length]
  rw [h2] at this; exact this.symm

/-- The branch is defined for every non-empty phase waveform (a one-sample phase waveform gives a
zero detuning since /repo c5791488) … -/
theorem arbitrary_phase_defined_iff (phi : List Rat) :
    arbDetuning? phi = none ↔ phi = [] := by
  match phi with
  | [] => exact iff_of_true rfl rfl
  | [x] => exact iff_of_false (Option.some_ne_none _) (List.cons_ne_nil _ _)
  | p0 :: p1 :: rest => exact iff_of_false (Option.some_ne_none _) (List.cons_ne_nil _ _)

/-- … whereas the old formula (F6.3) edge-padded the empty difference of a one-sample phase
waveform, an error in numpy. -/
theorem arbitrary_phase_single_sample_old (phi : List Rat) :
    arbDetuningOld? phi = none ↔ phi.length ≤ 1 := by
  match phi with
  | [] => exact iff_of_true rfl (Nat.zero_le 1)
  | [x] => exact iff_of_true rfl (Nat.le_refl 1)
  | p0 :: p1 :: rest =>
    exact iff_of_false (Option.some_ne_none _) fun h => Nat.not_succ_le_zero _ (Nat.le_of_succ_le_succ h)

/-- Constant and ramp branches of `ArbitraryPhase` reproduce the constant / the ideal ramp. -/
theorem arbitrary_phase_const_ramp (d : Nat) (v a b : Rat) :
    phaseModulation (arbConst d v).1 (arbConst d v).2 = List.replicate d v ∧
    (2 ≤ d → ∀ c det, arbRamp? d a b = some (c, det) → phaseModulation c det = rampIdeal d a b) :=
  ⟨arbConst_reconstructs d v, fun hd _ _ h => arbRamp_reconstructs hd h⟩

example : arbDetuning? [1, 3, 2] = some [-2000, -2000, 1000] ∧
    phaseModulation (arbPhaseC [1, 3, 2] [-2000, -2000, 1000]) [-2000, -2000, 1000] = [1, 3, 2] := by
  decide +kernel

/-! ### `BlackmanWaveform.from_max_val` -/

/-- **The search loop returns the least duration from the first guess on** whose scaling does
not exceed the maximum — for *any* window sums `S`. -/
theorem blackman_loop_least (S : Nat → Rat) (area maxVal : Rat) (fuel N : Nat)
    (h : bmSearch S area maxVal fuel = some N) :
    bmGuess area maxVal ≤ N ∧ bmStop S area maxVal N = true ∧
    ∀ M, bmGuess area maxVal ≤ M → M < N → bmStop S area maxVal M = false :=
  searchUp_spec _ _ _ h

/-- **Minimality with the closed form.**  If the window sums are `0.42·(N−1)` from some `L ≥ 2` on
(true of the ideal Blackman window for `N ≥ 4`, i.e. `L = 4`, which the monitor checks numerically;
a hypothesis here), `area, max_val > 0` and the first guess is at least `L`, then the loop terminates
after exactly one step, the chosen scaling does not exceed `max_val`, and **every** shorter duration
`M ≥ L` has a scaling above `max_val` ("one nanosecond shorter would exceed it"). -/
theorem blackman_search_minimal (S : Nat → Rat) (L : Nat) (hL : 2 ≤ L)
    (hS : ∀ N, L ≤ N → S N = bmIdealSum N)
    (area maxVal : Rat) (ha : 0 < area) (hm : 0 < maxVal) (hg : L ≤ bmGuess area maxVal)
    (fuel : Nat) (hf : 2 ≤ fuel) :
    ∃ N, bmSearch S area maxVal fuel = some N ∧ N = bmGuess area maxVal + 1 ∧
      (∃ sc, bmScaling? S area N = some sc ∧ sc ≤ maxVal) ∧
      ∀ M, L ≤ M → M < N → ∃ sc, bmScaling? S area M = some sc ∧ maxVal < sc := by
  -- `ha` is not used: it follows from `hg`, a non-positive area giving the first guess 0
  have hg' := Nat.le_succ_of_le hg
  refine ⟨_, bmSearch_ideal hL hS hm hg hf, rfl,
    ⟨_, bmScaling?_ideal area (Nat.le_trans hL hg') (hS _ hg'),
      (bmScaling_ideal_le_iff hm (Nat.le_trans hL hg')).2 (Nat.lt_succ_self _)⟩,
    fun M hM hlt => ⟨_, bmScaling?_ideal area (Nat.le_trans hL hM) (hS M hM),
      not_le.1 (mt (bmScaling_ideal_le_iff hm (Nat.le_trans hL hM)).1
        (Nat.not_lt.2 (Nat.le_of_lt_succ hlt)))⟩⟩

/-- **Never above the maximum.**  With window peaks in `[0, 1]`, the waveform finally chosen
(after the odd/even adjustment, as coded) has a largest sample `peak·scaling ≤ max_val`. -/
theorem blackman_from_max_val_le (S peak : Nat → Rat) (L : Nat) (hL : 2 ≤ L)
    (hS : ∀ N, L ≤ N → S N = bmIdealSum N)
    (hpk : ∀ N, 0 ≤ peak N ∧ peak N ≤ 1) (area maxVal : Rat) (ha : 0 < area) (hm : 0 < maxVal)
    (hg : L ≤ bmGuess area maxVal) (fuel : Nat) (hf : 2 ≤ fuel) :
    ∃ N sc, bmFromMaxVal S peak area maxVal fuel = some N ∧
      bmScaling? S area N = some sc ∧ peak N * sc ≤ maxVal := by
  have hs := bmSearch_ideal hL hS hm hg hf
  have hg' := Nat.le_succ_of_le hg
  have h2g := Nat.le_trans hL hg'
  obtain ⟨sc, h1, h2⟩ := bmAdjust_le (peak := peak) (bmGuess area maxVal) (hpk _).2
    (bmScaling?_ideal (S := S) area h2g (hS _ hg')) (bmScaling_ideal_pos ha h2g).le
    ((bmScaling_ideal_le_iff hm h2g).2 (Nat.lt_succ_self _))
  exact ⟨_, sc, by rw [bmFromMaxVal, hs]; rfl, h1, h2⟩

/-- Non-vacuity, on rational inputs: guess 24, chosen duration 25. -/
example : bmGuess 1 100 = 24 ∧ bmSearch bmIdealSum 1 100 5 = some 25 := by decide +kernel

/-! ### Integrals (`Waveform.integral = sum(samples) * 1e-3`) -/

/-- **Scaling scales the integral** (so negation negates it, division divides it). -/
theorem integral_scale (w : Wf) (k : Rat) :
    (w.scale k).integral? = w.integral?.map (· * k) := by
  unfold Wf.integral?
  rw [scale_samples?]
  cases w.samples? with
  | none => rfl
  | some s =>
    simp only [Option.map_some]
    rw [sum_map_mul_right]; congr 1; ring

/-- A constant waveform integrates to `duration · value / 1000`. -/
theorem integral_const (d : Nat) (v : Rat) :
    (Wf.const d v).integral? = some ((d : Rat) * v / 1000) := by
  simp only [Wf.integral?, Wf.samples?, Option.map_some, List.sum_replicate, nsmul_eq_mul]

example : (Wf.composite [.const 2 3, .ramp 3 0 1]).integral? = some ((3 : Rat) / 400) ∧
    ((Wf.composite [.const 2 3, .ramp 3 0 1]).scale (-2)).integral? = some (-(3 : Rat) / 200) := by
  decide +kernel

/-- **Integral of a composite of any number of parts**: defined iff every part's integral is,
and then their sum. -/
theorem integral_composite (ws : List Wf) :
    (Wf.composite ws).integral? = (ws.mapM Wf.integral?).map List.sum := by
  unfold Wf.integral?
  rw [Wf.samples?, samplesList?_eq, mapM_option_map, Option.map_map, Option.map_map]
  congr 1
  funext l
  simp only [Function.comp, List.sum_flatten, div_eq_mul_inv]
  exact (sum_map_mul_right (l.map List.sum) _).symm.trans (by rw [List.map_map]; rfl)

/-- **The integral of a composite is the sum of the integrals of its parts** — for two parts
(`CompositeWaveform(w1, w2)`), whenever both are defined. -/
theorem integral_composite_two (w1 w2 : Wf) (i1 i2 : Rat)
    (h1 : w1.integral? = some i1) (h2 : w2.integral? = some i2) :
    (Wf.composite [w1, w2]).integral? = some (i1 + i2) := by
  rw [integral_composite]; simp [h1, h2]

end C16
end Pulser
