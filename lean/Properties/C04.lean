/-
  C04 — Sequence serialisation round-trips and is schema-valid.

  What is carried here:
  * `defaults_agree`, `top_level_agree`, `coverage_complete`, `expr_ops_agree`, `flags_agree` — `decide`
    over the table GENERATED on every run from the live serializer / deserializer source,
    the live `Sequence` signatures and sequence-schema.json
    (PulserModel/Generated/AbstractOps.lean): the obligation is re-checked against the
    source each time the check runs;
  * `roundtrip_ops` — on the model's op language, decoding the encoding of a call log gives
    the canonical form of that log (for ANY table whose flags agree; instantiated with the
    generated one), `canon_idem`, hence `roundtrip_equiv`;
  * `roundtrip_expr` — expression trees survive the abstract JSON shape.

  What is NOT carried by a theorem (correspondence only, harness/props/C04.py):
  * that the canonical form behaves like the original log — hoisting `declare_channel`
    before the operations of other channels needs a commutation lemma over the whole
    scheduler (`declare_commutes`), not proved; `roundtrip_behaviour_partial` covers the
    logs that are already in canonical order;
  * schema validity proper (value types, nesting): `jsonschema` in the harness — the Lean
    side only knows the key sets; devices, registers, layouts, waveforms: C17 / harness;
  * the legacy JSON encoder/decoder: harness only.
-/
import Proofs.Serialize
namespace Pulser
namespace C04
open Serialize Generated.AbstractOps

/-- **Encoder, decoder and schema agree on every abstract operation** — for each branch of
`serialize_abstract_sequence` (rows of the generated table):
(1) every key the encoder elides at value `v` is re-inserted by the decoder with the same `v`;
(2) every key the decoder reads without default is always emitted;
(3) the decoder only defaults keys the encoder knows;
(4) every emitted key is permitted by the (closed) schema definition of the operation;
(5) every schema-`required` key is always emitted;
(6) every emitted key is read back (nothing is dropped);
(7) where both sides use the same `Sequence` method, a key carries the same argument on
    both sides and is elided at that method's live default;
(8) the decoder and the schema know the operation. -/
theorem defaults_agree : tableOk table = true := by decide +kernel

/-- The same for the top-level keys of the document (`device`, `register`, `layout`,
`channels`, `variables`, `operations`, `measurement`, `magnetic_field`, `slm_mask_targets`, …):
required keys are always written, written keys are allowed, keys read unconditionally
are always written, conditional keys are read conditionally. -/
theorem top_level_agree : topOk = true := by decide +kernel

/-- Every stored `Sequence` call has an encoder branch; every operation the decoder or the
schema know can be produced. -/
theorem coverage_complete : coverageOk = true := by decide +kernel

/-- Operators of parametrized objects (`OpSupport`, rounding included since the repair of
finding F-C04-1): the expression each one serialises to is accepted by the decoder and
allowed by the schema — no exception list. -/
theorem expr_ops_agree : exprOk [] = true := by decide +kernel

/-- The optional booleans of the model's op language survive elision and re-insertion in
the generated table (a consequence of clause (1) for these keys, checked directly). -/
theorem flags_agree : flagsOk table = true := by decide +kernel

/-- **Round trip on the model's op language**: for any table whose flags agree, decoding the
encoding of a call log succeeds and yields `canon log` — all channel declarations first
(without initial target), then every other call in its original order and with its original
arguments (an initial target as a `target` call at the position of its declaration; elided
defaults re-inserted), the measurement last. -/
theorem roundtrip_ops (T : List OpRow) (h : flagsOk T = true) (log : List Op) :
    decode T (encode T log) = some (canon log) := by
  unfold decode encode
  simp only [decode_encode_ops h log, Option.map_some, canon, channels_decl log]

/-- … in particular for the table extracted from the source now. -/
theorem roundtrip_ops_live (log : List Op) : decode table (encode table log) = some (canon log) :=
  roundtrip_ops table flags_agree log

/-- Canonical forms are fixed points: decoding an encoding, encoding again and decoding
gives the same program (serialisation is idempotent after one round trip). -/
theorem canon_idem (log : List Op) : canon (canon log) = canon log := Serialize.canon_idem log

/-- The decoded program is `≈` the original one (`≈` is `Serialize.Equiv`: equality of
canonical forms). -/
theorem roundtrip_equiv (log dec : List Op) (h : decode table (encode table log) = some dec) :
    Equiv dec log := by
  rw [roundtrip_ops_live] at h
  injection h with h
  subst h
  exact Serialize.canon_idem log

/-- Behaviour, for the logs that are already in canonical order (declarations first and
without initial targets, measurement last — what every *deserialised* sequence looks like):
the decoded program is literally the same program, hence runs to the same state.  For other
logs the statement needs `declare_commutes` (a declaration commutes with operations on
other channels), which is left to the correspondence check. -/
theorem roundtrip_behaviour_partial (s : SeqState) (log dec : List Op) (hc : canon log = log)
    (h : decode table (encode table log) = some dec) : run s dec = run s log := by
  rw [roundtrip_ops_live, hc] at h
  injection h with h
  rw [h]

/-- **Expression trees round-trip** through the JSON shape (`{"variable"}`,
`{"expression": op, "lhs", "rhs"}`), given distinct function names none of which is
`"neg"`.  (That a parametrized sequence and its decoded copy then build the same sequence for
every assignment is not stated by any theorem: nothing connects `AExpr` with `Param.POp`.) -/
theorem roundtrip_expr (names : FnNames) (hn : NamesOk names) (e : Param.Expr) (a : AExpr)
    (h : encExpr names e = some a) : decExpr names a = some e := by
  induction e generalizing a with
  | const q => cases h; rfl
  | var n i => cases h; rfl
  | add x y ihx ihy | sub x y ihx ihy | mul x y ihx ihy | div x y ihx ihy =>
    rw [encExpr] at h
    split at h
    · next ax ay hx hy => cases h; simp [decExpr, ihx ax hx, ihy ay hy]
    · cases h
  | neg x ih =>
    obtain ⟨ax, hx, rfl⟩ := Option.map_eq_some_iff.mp h
    simp [decExpr, ih ax hx]
  | fn f x ih =>
    rw [encExpr] at h
    split at h
    · next nm ax hl hx =>
      cases h
      have hne : nm ≠ "neg" := hn.2 (f, nm) (mem_of_lookup hl)
      simp [decExpr, hne, fnOfName_lookup hn.1 hl, ih ax hx]
    · cases h

/-! ### Non-vacuity -/

def exLog : List Op :=
  [.declare (.user 0) 0 none,
   .delay 100 (.user 0) false,                   -- at_rest at its default: elided
   .declare (.user 1) 1 (some [1]),              -- late declaration with initial target
   .delay 52 (.user 1) true,                     -- at_rest not at its default: written
   .align [.user 0, .user 1] true,
   .measure .digital,
   .phaseShift (1/2) [0] .digital]               -- (allowed after measure)

example : (encode table exLog).channels = [(.user 0, 0), (.user 1, 1)] := by decide +kernel
example : (encode table exLog).ops =
    [.delay (.user 0) 100 none, .target (.user 1) [1], .delay (.user 1) 52 (some true),
     .align [.user 0, .user 1] none, .phaseShift (1/2) [0] .digital] := by decide +kernel
example : decode table (encode table exLog) =
    some [.declare (.user 0) 0 none, .declare (.user 1) 1 none, .delay 100 (.user 0) false,
          .target [1] (.user 1), .delay 52 (.user 1) true, .align [.user 0, .user 1] true,
          .phaseShift (1/2) [0] .digital, .measure .digital] := by decide +kernel
-- the canonical form differs from the log (so `≈` is not `=`), and is a fixed point
example : canon exLog ≠ exLog := by decide +kernel
example : canon (canon exLog) = canon exLog := by decide +kernel
-- a table in which the decoder defaulted `at_rest` differently would break the round trip
def badTable : List OpRow :=
  table.map fun r => if r.op = "delay" then { r with decOptional := [("at_rest", "True")] } else r
example : flagsOk badTable = false := by decide +kernel
example : tableOk badTable = false := by decide +kernel
example : decode badTable (encode badTable [.delay 100 (.user 0) false]) =
    some [.delay 100 (.user 0) true] := by decide +kernel
def exNames : FnNames := [(0, "abs"), (1, "sin")]
example : encExpr exNames (.add (.mul (.const 2) (.var 0 0)) (.fn 1 (.neg (.var 1 2)))) =
    some (.binary "add" (.binary "mul" (.lit 2) (.index (.varRef 0) 0))
           (.unary "sin" (.unary "neg" (.index (.varRef 1) 2)))) := by decide +kernel
example : NamesOk exNames := by
  refine ⟨by decide +kernel, ?_⟩
  intro p hp
  simp only [exNames, List.mem_cons, List.mem_nil_iff, or_false] at hp
  rcases hp with rfl | rfl <;> simp
-- the hypothesis of roundtrip_behaviour_partial is satisfiable by a non-trivial log
example : canon (canon exLog) = canon exLog ∧ (canon exLog).length = 8 := by decide +kernel

end C04
end Pulser
