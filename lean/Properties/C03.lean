/-
  C03 — Addressing-conflict protocols: no conflict, minimal delay, exact estimate.

  Stated on the scheduler model (`make_next_pulse_slot` / `add_pulse` /
  `_find_add_delay`, PulserModel/Schedule.lean).  Fall times are oracle parameters;
  hypothesis A1 (`fall ≤ 2·rise_time`) is monitored at run time by the harness.

  Proved: conflict-freedom w.r.t. the most recent pulse of every other channel when it
  shares a target (complete for global channels and for 'wait-for-all'); minimality of the
  start instant; the 'no-delay' start; exactness of `estimate_added_delay`.
  `no_conflict` is the full statement over every reachable state: the most recent pulse
  *sharing a target atom* on any other channel, wherever it lies in that channel's history
  (behind retargets, behind non-sharing pulses), has ended — fall time included — before the
  new pulse starts.  It rests on the 'last pulse clear' invariant (Proofs/Conflict*.lean).
  With the channel's own rise time A1 fails in EOM mode when the EOM is slower than the channel:
  finding F32, repaired in /repo (the scans use the rise time of the mode the channel is in).
-/
import Proofs.ConflictInv
import Proofs.CallSpec
import Properties.C02
namespace Pulser
namespace C03

/-- `g` is a delay the channel can execute: nothing, or at least the minimum duration and a
whole number of clock periods. -/
def ValidGap (cfg : ChanCfg) (g : Nat) : Prop := g = 0 ∨ (cfg.minDur ≤ g ∧ cfg.clock ∣ g)

/-- `adjust_duration` returns the *least* executable delay that is at least the requested one. -/
theorem adjust_least (c : ChanState) (hc : 0 < c.cfg.clock) (d d' : Nat) (hd : 0 < d)
    (h : c.adjust d = .ok d') : ValidGap c.cfg d' ∧ d ≤ d' ∧ ∀ g, d ≤ g → ValidGap c.cfg g → d' ≤ g := by
  have := adjustDuration_ok hc h
  refine ⟨.inr ⟨this.1, this.2.2.1⟩, this.2.1, ?_⟩
  intro g hg hv
  rcases hv with h0 | ⟨h1, h2⟩
  · exact absurd (h0 ▸ hg) (Nat.not_le.mpr hd)
  · obtain ⟨_, rfl, _⟩ := validateDuration_iff.mp h
    exact ceilTo_le hc h2 (Nat.max_le.mpr ⟨hg, h1⟩)

/-- **No conflict ('min-delay' / 'wait-for-all').**  A pulse added with a protocol other than
'no-delay' never starts before the most recent pulse `q` of another channel has ended
*including its fall time* (evaluated in that channel's current mode), whenever `q` shares a
target atom with the adding channel — or regardless of targets under 'wait-for-all'. -/
theorem no_conflict_partial {ms : Option Nat} {c ch : ChanState} {others : List ChanState}
    {p : PulseRec} {barriers : List Int} {proto : Protocol} {drift : Option Drift} {blk : Bool}
    {slot last q : Slot} {pq : PulseRec}
    (hc : 0 < c.cfg.clock) (hl : c.last = .ok last)
    (h : makeNextPulseSlot ms c others p barriers proto drift blk = .ok slot)
    (hproto : proto ≠ .noDelay) (hch : ch ∈ others) (hinv : ChanInv ms ch)
    (hA1 : ∀ s ∈ ch.slots, ∀ p, s.kind = .pulse p → p.fall ch.inEomMode ≤ 2 * ch.modeRise)
    (hq : firstPulse ch.slots.reverse = some (q, pq))
    (hshare : (q.targets.any (last.targets.contains ·) || (proto == .waitForAll)) = true) :
    q.tf + (pq.fall ch.inEomMode : Nat) ≤ slot.ti := by
  have hb : q.tf + (pq.fall ch.inEomMode : Nat) ≤ curMaxOf others last barriers proto := by
    unfold curMaxOf
    rw [if_pos hproto]
    apply findAddDelay_ge_of_chan others last.targets (proto == .waitForAll) _ ch hch
    intro cur
    exact scan_ge _ _ _ _ _ cur (InvR_DescTf hinv.2)
      (fun s hs => hA1 s (List.mem_reverse.mp hs)) q pq hq hshare
  exact Int.le_trans hb (makeNextPulseSlot_ge hc hl h).1

/-- **Minimal delay.**  The pulse starts at the earliest instant `t0 + g` with `g` an executable
delay such that `t0 + g` is not before `current_max_t` (channel end, phase-shift barriers
and — unless 'no-delay' — the conflicts found in the other channels) and `g` covers the
phase-jump buffer. -/
theorem min_delay_minimal {ms : Option Nat} {c : ChanState} {others : List ChanState}
    {p : PulseRec} {barriers : List Int} {proto : Protocol} {drift : Option Drift} {blk : Bool}
    {slot last : Slot} (hc : 0 < c.cfg.clock) (hl : c.last = .ok last)
    (h : makeNextPulseSlot ms c others p barriers proto drift blk = .ok slot)
    (curMax buffer : Int) (hcm : curMax = curMaxOf others last barriers proto)
    (hbf : buffer = phaseJumpBuffer c last.tf (fmtPhase (correctedPhase p drift curMax)) proto) :
    ∃ g : Nat, slot.ti = last.tf + g ∧ ValidGap c.cfg g ∧
      curMax ≤ last.tf + g ∧ buffer ≤ g ∧
      ∀ g' : Nat, ValidGap c.cfg g' → curMax ≤ last.tf + g' → buffer ≤ g' → g ≤ g' := by
  obtain ⟨delay, p', h1, _, _, _, _, h6, _, hneed⟩ := makeNextPulseSlot_spec hc hl h
  subst hcm hbf
  generalize curMaxOf others last barriers proto = curMax at hneed ⊢
  generalize phaseJumpBuffer c last.tf _ proto = buffer at hneed ⊢
  -- `need` is the larger of the two waits; `delay` is `0` if it is not positive, else adjusted
  generalize hn : max (curMax - last.tf) buffer = need at hneed
  obtain ⟨hz, hadj, hge⟩ := hneed
  have h2 : curMax - last.tf ≤ need := hn ▸ Int.le_max_left _ _
  have h3 : buffer ≤ need := hn ▸ Int.le_max_right _ _
  refine ⟨delay, h1, h6, Int.le_add_of_sub_left_le (Int.le_trans h2 hge), Int.le_trans h3 hge,
    fun g' hv hcm' hbf' => ?_⟩
  have h4 : need ≤ g' := hn ▸ Int.max_le.mpr ⟨Int.sub_left_le_of_le_add hcm', hbf'⟩
  by_cases hpos : 0 < need
  · exact (adjust_least c hc _ delay (Int.lt_toNat.mpr hpos) (hadj hpos)).2.2 g' (Int.toNat_le.mpr h4) hv
  · rw [hz (Int.not_lt.mp hpos)]; exact Nat.zero_le _

/-- **'no-delay'** starts at the channel's current end or the phase-shift barrier, whichever is
later — up to the granularity of the channel: the gap to the channel end is the least
executable delay reaching the barrier.  (The literal "exactly at the barrier" fails when
`0 < barrier − end` is not an executable delay: known finding F7.) -/
theorem no_delay_granular {ms : Option Nat} {c : ChanState} {others : List ChanState}
    {p : PulseRec} {barriers : List Int} {drift : Option Drift} {blk : Bool}
    {slot last : Slot} (hc : 0 < c.cfg.clock) (hl : c.last = .ok last)
    (h : makeNextPulseSlot ms c others p barriers .noDelay drift blk = .ok slot)
    (B : Int) (hB : B = maxList last.tf barriers) :
    ∃ g : Nat, slot.ti = last.tf + g ∧ ValidGap c.cfg g ∧ B ≤ last.tf + g ∧
      (∀ g' : Nat, ValidGap c.cfg g' → B ≤ last.tf + g' → g ≤ g') ∧
      (ValidGap c.cfg (B - last.tf).toNat → slot.ti = B) := by
  -- under 'no-delay' `current_max_t` is the barrier `B` and there is no phase-jump buffer
  obtain ⟨g, h1, h2, h3, _, h5⟩ := min_delay_minimal hc hl h B 0 hB rfl
  have hB' : last.tf ≤ B := by rw [hB]; exact maxList_ge _ _
  refine ⟨g, h1, h2, h3, fun g' hv hb => h5 g' hv hb (Int.natCast_nonneg _), fun hv => ?_⟩
  have := h5 (B - last.tf).toNat hv (Int.le_add_of_sub_left_le (Int.self_le_toNat _))
    (Int.natCast_nonneg _)
  have hg : (g : Int) ≤ B - last.tf :=
    Int.toNat_of_nonneg (Int.sub_nonneg_of_le hB') ▸ Int.ofNat_le.mpr this
  rw [h1]; exact Int.le_antisymm (Int.add_le_of_le_sub_left hg) h3

/-- **The delay predicted by `estimate_added_delay` equals the delay the same `add` inserts.**
If `add_pulse` succeeds, `make_next_pulse_slot(..., block_over_max_duration=False)` — what
the estimate evaluates — yields the very slot that `add` appends last, and the delay
slot inserted before it (if any) spans exactly `slot.ti − t0`. -/
theorem estimate_exact {ms : Option Nat} {c c' : ChanState} {others : List ChanState}
    {p : PulseRec} {barriers : List Int} {proto : Protocol} {last : Slot}
    (hl : c.last = .ok last) (h : addPulse ms c others p barriers proto none = .ok c') :
    ∃ slot, makeNextPulseSlot ms c others p barriers proto none false = .ok slot ∧
      c'.last = .ok slot ∧ last.tf ≤ slot.ti := by
  obtain ⟨slot, hm, hl'⟩ := addPulse_last h
  obtain ⟨delay, _, _, _, _, hs⟩ := makeNextPulseSlot_shape hl hm
  exact ⟨slot, makeNext_blk_indep hm, hl', by rw [hs]; exact le_add_dur _ _⟩

/-- At the level of the API: `estimate_added_delay` leaves the sequence unchanged.  (That it
returns `slot.ti − t0` whenever it gets as far as computing a slot is the definition of
`estimateCore`, not part of this statement.) -/
theorem estimate_returns_gap (s : SeqState) (p : PulseIn) (c : ChanState) (proto : Protocol) :
    (estimateCore s p c proto).st = s := estimateCore_st s p c proto

/-- **`align`.**  `Sequence.align(*channels, at_rest)` computes `T`, the latest of the channels'
ends (counting fall time when `at_rest`), and runs `alignLoop T` over the channels.  If it
succeeds, every aligned channel that ended before `T` is extended by an executable delay `g`
(≥ minimum duration, clock multiple) with `end + g ≥ T`; a channel already at or past `T` and
every channel not named are untouched.  (After the repair of F1 the delay is measured from the
channel's bare end.  "End together exactly at `T`" holds iff `T − end` is itself executable on
each channel: known finding F7a otherwise.) -/
theorem align_granular (T : Int) (l : List (ChName × Int)) (s : SeqState)
    (hnd : (l.map (·.1)).Nodup) (hi : SeqInv s) (hok : (alignLoop T l s).err = none) :
    (∀ n ∈ l.map (·.1), ∀ c, s.getChan n = some c →
      ∃ c', (alignLoop T l s).st.getChan n = some c' ∧
        ((T ≤ c.getDuration false ∧ c'.getDuration false = c.getDuration false) ∨
         (c.getDuration false < T ∧ ∃ g : Nat, c'.getDuration false = c.getDuration false + g ∧
            T ≤ c.getDuration false + g ∧ c.cfg.minDur ≤ g ∧ c.cfg.clock ∣ g))) ∧
    (∀ m, m ∉ l.map (·.1) → (alignLoop T l s).st.getChan m = s.getChan m) := by
  induction l generalizing s with
  | nil => exact ⟨fun n hn => by simp at hn, fun m _ => rfl⟩
  | cons a rest ih =>
    obtain ⟨n, t⟩ := a
    have hnd' := List.nodup_cons.mp hnd
    have hnr : n ∉ rest.map (·.1) := hnd'.1
    have hmem : ∀ {n'}, n' ∈ ((n, t) :: rest).map (·.1) → n' = n ∨ n' ∈ rest.map (·.1) :=
      List.mem_cons.mp
    rcases alignLoop_cons T n t rest s with ⟨e, he⟩ | ⟨c, hc, ⟨hge, he⟩ | ⟨d, hlt, ha, he⟩⟩
    · rw [he] at hok; cases hok
    · -- already at or past `T`: nothing happens to `n`
      rw [he] at hok ⊢
      obtain ⟨ihA, ihB⟩ := ih s hnd'.2 hi hok
      refine ⟨fun n' hn' c0 hc0 => ?_, fun m hm => ihB m fun e => hm (List.mem_cons_of_mem _ e)⟩
      rcases hmem hn' with rfl | hh
      · cases hc.symm.trans hc0
        exact ⟨c, by rw [ihB n' hnr]; exact hc, .inl ⟨hge, rfl⟩⟩
      · exact ihA n' hh c0 hc0
    · -- a delay of the adjusted gap on `n`, then the rest of the loop
      rw [he] at hok ⊢
      obtain ⟨hde, hb⟩ := Raw.bind_ok hok
      rw [hb] at hok ⊢
      have hck := (hi c (getChan_mem hc).1).1
      have had := adjustDuration_ok hck ha
      obtain ⟨c', hadd, hget, hoth, _, _⟩ := delayCore_spec
        (Nat.lt_of_lt_of_le (Int.lt_toNat.mpr (Int.sub_pos_of_lt hlt)) had.2.1) hc hde
      have hi1 : SeqInv (delayCore s (d : Int) n false).st :=
        (((delayCore_via (w := .slots) _ _ _).mono .prim).SG nofun hi).1
      generalize (delayCore s (d : Int) n false).st = s1 at hok hget hoth hi1 ⊢
      obtain ⟨ihA, ihB⟩ := ih s1 hnd'.2 hi1 hok
      obtain ⟨d', e1, e2, _, e4⟩ := addDelay_end hck hadd
      refine ⟨fun n' hn' c0 hc0 => ?_, fun m hm => ?_⟩
      · rcases hmem hn' with rfl | hh
        · cases hc.symm.trans hc0
          exact ⟨c', by rw [ihB n' hnr]; exact hget,
            .inr ⟨hlt, d', e1, Int.le_add_of_sub_left_le (Int.le_trans (Int.self_le_toNat _)
              (Int.ofNat_le.mpr (Nat.le_trans had.2.1 e2))), Nat.le_trans had.1 e2, e4⟩⟩
        · exact ihA n' hh c0 (by rw [hoth n' fun e => hnr (e ▸ hh)]; exact hc0)
      · rw [ihB m fun e => hm (List.mem_cons_of_mem _ e), hoth m fun e => hm (e ▸ List.mem_cons_self)]

/-- The oracle hypotheses on fall times (checked on every pulse by the harness):
A1 a fall time is at most twice the rise time of its modulation (`Pulse.fall_time` is
`rise_time + end buffer`, the end buffer is at most `rise_time`) — for the standard mode and
for the mode the channel is in; A2 the fall time in EOM mode is not longer than in standard
mode (EOM at least as fast as the channel's own modulation). -/
def FallHyp (s : SeqState) : Prop :=
  ∀ c ∈ s.chans, ∀ sl ∈ c.slots, ∀ p, sl.kind = .pulse p →
    p.fallStd ≤ 2 * c.cfg.rise ∧ p.fall c.inEomMode ≤ 2 * c.modeRise ∧ p.fallEom ≤ p.fallStd

/-- **No conflict, in full.**  In every state reachable by any history of calls (failing ones
and oracle answers included): when a pulse is placed on channel `n` with 'min-delay' or
'wait-for-all', then for every other channel `ch` the most recent pulse `q` of `ch` that shares
a target atom with `n`'s current targets (the most recent pulse at all under 'wait-for-all') —
wherever `q` lies in `ch`'s history, also behind retargets and behind later pulses on other
atoms — has ended, fall time in `ch`'s current mode included, when the new pulse starts. -/
theorem no_conflict (dev : Device) (nQ : Nat) (hd : DevOk dev) (s : SeqState)
    (hr : C02.Reach dev nQ s) (hfall : FallHyp s)
    {n : ChName} {c ch : ChanState} (hc : s.getChan n = some c) (hch : ch ∈ s.others n)
    {p : PulseRec} {barriers : List Int} {proto : Protocol} {drift : Option Drift} {blk : Bool}
    {slot last q : Slot} {pq : PulseRec} (hl : c.last = .ok last)
    (h : makeNextPulseSlot dev.maxSeqDur c (s.others n) p barriers proto drift blk = .ok slot)
    (hproto : proto ≠ .noDelay)
    (hq : recentShared last.targets (proto == .waitForAll) ch.slots.reverse = some (q, pq)) :
    q.tf + (pq.fall ch.inEomMode : Nat) ≤ slot.ti := by
  have hinvs := C02.timeline_inv dev nQ hd s hr
  have hcm := (getChan_mem hc).1
  have hchm : ch ∈ s.chans := (List.mem_filter.mp hch).1
  have hci := hinvs c hcm
  have hchi := hinvs ch hchm
  have hlpc : LPC ch.slots.reverse := by
    obtain ⟨evs, rfl⟩ := hr
    have h0 : SeqInv (SeqState.init dev nQ) := SeqState.init_all dev nQ
    have hl0 : LPCAll (SeqState.init dev nQ) := SeqState.init_all dev nQ
    exact runEv_LPC (s := SeqState.init dev nQ) hd h0 hl0 evs
      (fun c hc sl hsl p hp => (hfall c hc sl hsl p hp).1) ch hchm
  have hA : ∀ sl ∈ ch.slots.reverse, ∀ p, sl.kind = .pulse p →
      p.fall ch.inEomMode ≤ 2 * ch.modeRise ∧ p.fall ch.inEomMode ≤ p.fallStd := by
    intro sl hsl p hp
    have := hfall ch hchm sl (List.mem_reverse.mp hsl) p hp
    refine ⟨this.2.1, ?_⟩
    unfold PulseRec.fall
    cases ch.inEomMode with
    | true => simpa using this.2.2
    | false => simp
  have hb : q.tf + (pq.fall ch.inEomMode : Nat) ≤ curMaxOf (s.others n) last barriers proto := by
    unfold curMaxOf
    rw [if_pos hproto]
    apply findAddDelay_ge_of_chan (s.others n) last.targets (proto == .waitForAll) _ ch hch
    intro cur
    cases hwa : (proto == .waitForAll) with
    | true =>
      rw [hwa, recentShared_all] at hq
      exact scan_ge _ _ _ _ _ cur (InvR_DescTf hchi.2) (fun s hs p hp => (hA s hs p hp).1) q pq hq
        (by simp)
    | false =>
      rw [hwa] at hq
      exact scan_ge_shared _ _ _ _ cur (InvR_DescTf hchi.2) (InvR_TargetsRule hchi.2) hlpc
        (InvR_wf hchi.2) hA q pq hq
  exact Int.le_trans hb (makeNextPulseSlot_ge hci.1 hl h).1

/-- **No conflict, at the level of the API call.**  From any reachable state, when
`seq.add(pulse, channel, protocol)` with 'min-delay' or 'wait-for-all' succeeds, the pulse
instruction it appended on the channel starts no earlier than the end, fall time included, of
the most recent pulse sharing a target atom (any pulse under 'wait-for-all') on every other
channel of the sequence as it was before the call. -/
theorem add_no_conflict (dev : Device) (nQ : Nat) (hd : DevOk dev) (s : SeqState)
    (hr : C02.Reach dev nQ s) (hfall : FallHyp s) (p : PulseIn) (n : ChName) (proto : Protocol)
    (hproto : proto ≠ .noDelay) (hok : (stepRaw s (.add p n (some proto))).err = none) :
    ∃ (c c' : ChanState) (last slot : Slot),
      s.getChan n = some c ∧ c.last = .ok last ∧
      (stepRaw s (.add p n (some proto))).st.getChan n = some c' ∧ c'.last = .ok slot ∧
      ∀ ch ∈ s.others n, ∀ q pq,
        recentShared last.targets (proto == .waitForAll) ch.slots.reverse = some (q, pq) →
        q.tf + (pq.fall ch.inEomMode : Nat) ≤ slot.ti := by
  have hdev : s.dev = dev := by
    obtain ⟨evs, rfl⟩ := hr
    exact (runEv_SG (s := SeqState.init dev nQ) hd (SeqState.init_all dev nQ) evs).2.1
  have hinvs : SeqInv s := fun c hc => hdev ▸ C02.timeline_inv dev nQ hd s hr c hc
  simp only [stepRaw] at hok ⊢
  generalize hg : (if s.measured.isSome = true then _ else _ : Raw) = g at hok ⊢
  rw [store_err, markNonEmpty_err] at hok
  -- the call passed the guards of `add` and reached `_add`
  have hcore : g = addCore s p n (some proto) none := by
    have h3 := hok
    rw [← hg] at h3 ⊢
    rw [(Raw.guard_ok h3).2]; rw [(Raw.guard_ok h3).2] at h3
    cases hv : s.validateChannel n true with
    | error e => rw [hv] at h3; cases h3
    | ok c0 => rw [hv] at h3; exact (Raw.guard_ok h3).2
  subst hcore
  obtain ⟨c, c', last, slot, pr, ref, hgc, hl, _, _, hm, hget, hl'⟩ := addCore_ok_spec hok
  refine ⟨c, c', last, slot, hgc, hl, ?_, hl', fun ch hch q pq hq => ?_⟩
  · rw [getChan_of_chans ((store_chans _ _).trans (markNonEmpty_chans _))]; exact hget
  · rw [hdev] at hm
    exact no_conflict dev nQ hd s hr hfall hgc hch hl hm hproto hq

/-! ### Non-vacuity -/

def cfgA : ChanCfg := { clock := 4, minDur := 16, rise := 120, pjt := 240 }
def exDev : Device := { chans := [cfgA, cfgA], dmms := [], reusable := false, maxSeqDur := none }

/-- two global channels; a pulse with fall time 200 on the first, then a 'min-delay' add on the second -/
def exS : SeqState :=
  run (SeqState.init exDev 2)
    [.declare (.user 0) 0 none, .declare (.user 1) 1 none,
     .add { dur := 100, fallStd := 200, ref := 1 } (.user 0) (some .minDelay),
     .add { dur := 52, ref := 2 } (.user 1) (some .minDelay)]

/-- the second pulse starts at 100 + 200 = 300, not before -/
example : (exS.chans.map (·.slots.map fun s => (s.ti, s.tf))) =
    [[(-1, 0), (0, 100)], [(-1, 0), (0, 300), (300, 352)]] := by decide +kernel

/-- Executable form of `FallHyp` (for the example below). -/
def fallHypB (s : SeqState) : Bool :=
  s.chans.all fun c => c.slots.all fun sl =>
    match sl.kind with
    | .pulse p => decide (p.fallStd ≤ 2 * c.cfg.rise) && decide (p.fall c.inEomMode ≤ 2 * c.modeRise) &&
        decide (p.fallEom ≤ p.fallStd)
    | _ => true

theorem fallHyp_of_B {s : SeqState} (h : fallHypB s = true) : FallHyp s := by
  intro c hc sl hsl p hp
  unfold fallHypB at h
  have := List.all_eq_true.mp (List.all_eq_true.mp h c hc) sl hsl
  simp only [hp, Bool.and_eq_true, decide_eq_true_eq] at this
  exact ⟨this.1.1, this.1.2, this.2⟩

def cfgL : ChanCfg := { clock := 4, minDur := 16, rise := 120, pjt := 240, isLocal := true, minRetarget := 220 }
def exDevL : Device := { chans := [cfgL, cfgL], dmms := [], reusable := false, maxSeqDur := none }
def exOpsL : List Op :=
  [.declare (.user 0) 0 (some [0]), .declare (.user 1) 1 (some [0]),
   .add { dur := 400, fallStd := 200, ref := 1 } (.user 0) (some .minDelay),   -- on atom 0
   .target [1] (.user 0),
   .add { dur := 100, fallStd := 120, ref := 2 } (.user 0) (some .minDelay)]   -- on atom 1

/-- channel 0 played a pulse on atom 0, was retargeted to atom 1 and played another pulse;
channel 1 (on atom 0) now adds a pulse. -/
def exL : SeqState := run (SeqState.init exDevL 2) exOpsL

/-- The hypotheses of `no_conflict` are met by this reachable state, with the sharing pulse
lying *behind* a retarget and a later pulse on another atom: it ended at 400 with fall time
200 (the retarget waited for it: the target instruction is at 600); the later pulse on atom 1
ends at 700 with fall time 120 and imposes nothing on a pulse for atom 0. -/
example :
    C02.Reach exDevL 2 exL ∧ FallHyp exL ∧
    (exL.chans.map (·.slots.map fun s => (s.ti, s.tf, s.targets))) =
      [[(-1, 0, [0]), (0, 400, [0]), (400, 600, [0]), (600, 600, [1]), (600, 700, [1])], [(-1, 0, [0])]] ∧
    ((exL.chans[0]?.map fun ch => (recentShared [0] false ch.slots.reverse).map fun x => (x.1.ti, x.1.tf, x.2.fallStd))
      = some (some (0, 400, 200))) :=
  ⟨C02.Reach.of_run exDevL 2 exOpsL, fallHyp_of_B (by decide +kernel), by decide +kernel, by decide +kernel⟩

/-- `add_no_conflict` applies to that state: the `add` on channel 1 (atom 0) succeeds, and the new
pulse starts at 600 = 400 + 200 — the end plus fall time of the pulse on atom 0 that channel 0
played *before* it was retargeted — not at 820 (end + fall of channel 0's latest pulse, which
is on atom 1). -/
example :
    (stepRaw exL (.add { dur := 52, ref := 3 } (.user 1) (some .minDelay))).err = none ∧
    (((stepRaw exL (.add { dur := 52, ref := 3 } (.user 1) (some .minDelay))).st.getChan (.user 1)).map
      fun c => c.slots.map fun s => (s.ti, s.tf)) = some [(-1, 0), (0, 600), (600, 652)] := by
  constructor <;> decide +kernel

end C03
end Pulser
