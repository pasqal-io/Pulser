/-
  C18 — Switching device or register preserves the program.

  What is proved here, and what is not:

  * `timing_congr` (clause "strict ⇒ identical timeline", model side): the timeline and the phase
    references of a history of accepted calls depend on the device only through the channel
    parameters listed in `Switch.timingFields`; every other field of a channel configuration, the
    device's maximal sequence duration and channel reusability only decide whether a call raises.
    By induction over arbitrary histories (`Switch.run_erase`).
  * `strict_sound` — the obligation re-checked against the source on every run: which timing
    parameters the strict comparison of the *live* `_switch_device.py` (table
    `Generated.strictParams`, extracted with `ast`) leaves uncovered: none (`[]`) since the repair
    of F5 (/repo 2c8b93c0), hence `strict_identical`: channels that pass the live strict comparison
    give identical timelines (`strict_sound_of_complete`, `strict_identical_of_complete`).
    Before the repair the list was `["min_duration", "phase_jump_time"]` (`strict_sound_old`, over
    the frozen table `Switch.oldStrictParams`), exhibited on the model by
    `strict_phase_jump_counterexample` / `strict_min_duration_counterexample`.
  * the table equalities pin the source text the model of
    `PulserModel/Switch.lean` mirrors (guards, `check_retarget`, replayed call list, renamed calls,
    caught exception, sample comparison).
  * `dmm_rename_counterexample` / `dmm_rename_values`: the replay renamed DMM channels but not the
    `delay` / `align` calls naming them (finding F18r) — repaired in /repo d02eba4b, the model follows.

  Not proved (monitor / correspondence only): the non-strict clause (limits of the new device), the
  register clause, samples (`sample()` arrays), parametrized sequences.
-/
import Proofs.Switch
import PulserModel.Generated.StrictParams
namespace Pulser
namespace C18
open Switch

/-! ### (a) the timing fields -/

/-- **The field tables name every channel parameter of the model**: two configurations that agree
on `timingFields ++ limitFields` are equal (no field of `ChanCfg` is outside the classification). -/
theorem timing_fields_complete {a b : ChanCfg} (h : agreeOn (timingFields ++ limitFields) a b = true) :
    a = b := by
  simp only [agreeOn_iff, timingFields, limitFields, List.cons_append, List.nil_append, List.forall_mem_cons,
    get_rows, FVal.ty.injEq, FVal.basis.injEq, FVal.bool.injEq, FVal.nat.injEq, FVal.onat.injEq, FVal.orat.injEq,
    FVal.rat.injEq] at h
  obtain ⟨⟨t1, t2⟩, -, hl, hc, hmd, hr, hp, hmr, hfr, -, he1, he2, he3, l1, l2, l3, l4, l5, l6, l7, -⟩ := h
  cases a; cases b
  simp only [ChanCfg.mk.injEq]
  exact ⟨t1, t2, hl, hc, hmd, l1, hr, hp, hmr, hfr, l2, eom_ext he1 he2 he3, l3, l4, l5, l6, l7⟩

/-- Two states that differ in limits only (e.g. in the middle of a replay) give the same timeline
for every history accepted from both. -/
theorem timing_congr_states (s₁ s₂ : SeqState) (ops : List Op) (he : erase s₁ = erase s₂)
    (h₁ : allOk s₁ ops = true) (h₂ : allOk s₂ ops = true) :
    timeline (run s₁ ops) = timeline (run s₂ ops) := by
  rw [← timeline_erase (run s₁ ops), ← timeline_erase (run s₂ ops), ← run_erase _ _ h₁, ← run_erase _ _ h₂, he]

/-- **Only the timing fields matter** (clause: a strict switch that returns, returns the identical
timeline).  Two devices whose channels and DMMs agree pairwise on `timingFields` — limits
(`max_duration`, `max_amp`, `max_abs_detuning`, `min_avg_amp`, `max_targets`, DMM bottoms),
`max_sequence_duration` and `reusable_channels` arbitrary — give, for *every* history in which
every call is accepted on both, the same instructions on every channel, the same EOM blocks, the
same phase references and the same measurement.  (The operations carry the float-only oracle
values — fall times, sample summaries, EOM detuning options — which are therefore assumed equal on
both devices; they are functions of `mod_bandwidth` / the EOM configuration.) -/
theorem timing_congr (d₁ d₂ : Device) (nQ : Nat) (ops : List Op) (hd : devicesAgree d₁ d₂ = true)
    (h₁ : allOk (SeqState.init d₁ nQ) ops = true) (h₂ : allOk (SeqState.init d₂ nQ) ops = true) :
    timeline (run (SeqState.init d₁ nQ) ops) = timeline (run (SeqState.init d₂ nQ) ops) :=
  timing_congr_states _ _ ops (by simp only [erase, SeqState.init, eraseDev_eq_of_agree hd]) h₁ h₂

/-- One accepted call: accepted on the limit-free device too, with the erased result — the
per-primitive form of `timing_congr`. -/
theorem accepted_call_ignores_limits (s : SeqState) (op : Op) (h : (stepRaw s op).err = none) :
    stepRaw (erase s) op = eraseRaw (stepRaw s op) := stepRaw_erase s op h

/-! ### (b) the strict comparison -/

/-- **The strict comparison of the live code leaves no timing parameter uncovered** — a `decide`
over the table regenerated from `_switch_device.py` on every run.  A comparison that drops a timing
parameter breaks this theorem; any other change of the table breaks `model_strict_params` below;
either triggers the monitor's search.  (`harness/props/C18.py` reads the list on the right-hand
side from this source text: keep the statement on one line and in this form.) -/
theorem strict_sound : strictMissing Generated.strictParams Generated.strictSampleChecks = [] := by
  decide +kernel

/-- Before the repair of F5 (/repo 2c8b93c0): `phase_jump_time` (`custom_phase_jump_time`) and
`min_duration` are read by the scheduler but were not compared, so `switch_device(strict=True)`
could return a different timeline. -/
theorem strict_sound_old : strictMissing oldStrictParams Generated.strictSampleChecks
    = ["min_duration", "phase_jump_time"] := by decide +kernel

/-- The repair is exactly the two parameters, compared last. -/
theorem strict_params_repaired : Generated.strictParams = oldStrictParams ++ ["min_duration", "phase_jump_time"] := rfl

/-- **A strict comparison with nothing uncovered is sound**, per channel: a pair of channels that
passes it has the same timing configuration (the EOM configuration is not looked at for a channel
whose EOM mode the sequence never enables). -/
theorem strict_sound_of_complete {params samples : List String} (h : strictMissing params samples = [])
    {a b : ChanCfg} (wa : retargetWF a = true) (wb : retargetWF b = true)
    (hm : strictMatch params false a b = true) : timing (noEom a) = timing (noEom b) :=
  strictMatch_sound (covers_of_missing_nil h) wa wb hm

/-- … and for a channel whose EOM mode is used: the EOM rise time is compared, the EOM buffer
parameters (`dynamicFields`) are those that only the post-replay sample comparison can see. -/
theorem strict_sound_of_complete_eom {params samples : List String} (h : strictMissing params samples = [])
    {a b : ChanCfg} (wa : retargetWF a = true) (wb : retargetWF b = true)
    (hm : strictMatch params true a b = true) (hae : a.eom.isSome = true)
    (hdyn : agreeOn dynamicFields a b = true) : timing a = timing b :=
  strictMatch_sound_eom (covers_of_missing_nil h) wa wb hm hdyn

/-- **Strict ⇒ identical timeline, once nothing is uncovered**: if the strict comparison covers
every timing parameter (`strictMissing … = []`) and the channels of two devices pass it pairwise,
every history accepted on both has the same timeline on both. -/
theorem strict_identical_of_complete {params samples : List String} (h : strictMissing params samples = [])
    (d₁ d₂ : Device) (nQ : Nat) (ops : List Op)
    (hc : listOk params d₁.chans d₂.chans = true) (hd : listOk params d₁.dmms d₂.dmms = true)
    (h₁ : allOk (SeqState.init d₁ nQ) ops = true) (h₂ : allOk (SeqState.init d₂ nQ) ops = true) :
    timeline (run (SeqState.init d₁ nQ) ops) = timeline (run (SeqState.init d₂ nQ) ops) := by
  apply timing_congr_states _ _ _ _ h₁ h₂
  simp only [erase, SeqState.init, eraseDev, map_timing_of_listOk h hc, map_timing_of_listOk h hd]

/-- **Strict ⇒ identical timeline, for the live comparison**: two devices whose channels pass the
strict comparison extracted from the code (`pairOk Generated.strictParams`: the guards of
`check_channels_match`, the EOM buffer parameters as seen by the sample comparison, a well-formed
retarget configuration on both sides, and either no EOM configuration on both sides or one on the
old side that passes the comparison) give the same timeline for every history accepted on both. -/
theorem strict_identical (d₁ d₂ : Device) (nQ : Nat) (ops : List Op)
    (hc : listOk Generated.strictParams d₁.chans d₂.chans = true)
    (hd : listOk Generated.strictParams d₁.dmms d₂.dmms = true)
    (h₁ : allOk (SeqState.init d₁ nQ) ops = true) (h₂ : allOk (SeqState.init d₂ nQ) ops = true) :
    timeline (run (SeqState.init d₁ nQ) ops) = timeline (run (SeqState.init d₂ nQ) ops) :=
  strict_identical_of_complete strict_sound d₁ d₂ nQ ops hc hd h₁ h₂

/-- `check_channels_match(strict=True)` (statement order of the Python) is the table-driven
comparison over the parameters it names. -/
theorem check_channels_match_spec (old new : ChanCfg) (eom : Bool) :
    checkChannelsMatch old new eom true = .ok ↔ strictMatch modelStrictParams eom old new = true := by
  rw [strictMatch_model_iff]
  unfold checkChannelsMatch paramsToCheck
  rw [refuse_ok_iff (by decide), refuse_ok_iff (by decide), refuse_ok_iff (by decide)]
  -- the same conjunction on both sides, clause by clause (`(eom && !x) = false` is `eom = true → x = true`)
  simp only [Bool.not_and, Bool.or_eq_false_iff, Bool.not_eq_eq_eq_not, Bool.not_false, beq_iff_eq, and_assoc,
    Option.not_isSome, Bool.and_eq_false_imp, Option.isNone_eq_false_iff, Bool.and_true, Bool.not_true,
    Bool.false_eq_true, ↓reduceIte, Bool.or_eq_true, List.cons_append, List.nil_append, List.all_cons, List.all_append,
    List.all_nil, Bool.and_eq_true, List.all_eq_true, List.mem_ite_nil_right, List.mem_cons, List.not_mem_nil, or_false,
    and_imp, forall_eq_apply_imp_iff, ite_eq_left_iff, not_and, reduceCtorEq, imp_false, not_imp, Decidable.not_not]

/-- The retarget interval matters to `add_target` only where `check_retarget` looks at it: when
the fixed retarget time covers it, the retarget delay is the fixed time whatever the interval. -/
theorem retarget_interval_covered (c : ChanState) (ti : Int) :
    retargetDelta (eraseChan c) ti = retargetDelta c ti := retargetDelta_eff c ti

/-! ### the model mirrors the source: each generated table is the literal the model uses -/

theorem model_strict_params : modelStrictParams = Generated.strictParams := rfl
theorem strict_guards : Generated.strictGuards = guards := rfl
theorem check_retarget_src : Generated.checkRetargetSrc = checkRetargetSrc := rfl
theorem strict_sample_checks : Generated.strictSampleChecks = sampleArrays := rfl
theorem nonstrict_params : Generated.nonStrictParams = ["type", "basis", "addressing", "eom_config"] := rfl
theorem renamed_calls : Generated.renamedCalls
    = ["add_dmm_detuning", "align", "config_detuning_map", "config_slm_mask", "declare_channel", "delay"] := rfl
theorem replayed_calls : Generated.replayedCalls = "seq._calls[1:] + seq._to_build_calls" := rfl
theorem caught_by_replay_loop : Generated.caughtByReplayLoop = ["ValueError"] := rfl
theorem device_params : Generated.deviceParams = ["interaction_coeff_xy", "rydberg_level"] := rfl

/-! ### F5 on the model: the strict comparison before the repair was not sound -/

def chA : ChanCfg := { clock := 4, minDur := 16, rise := 120, pjt := 240 }
/-- identical except `custom_phase_jump_time = 0` -/
def chB : ChanCfg := { chA with pjt := 0 }
/-- a faster channel; `chD` is identical except `min_duration = 52` -/
def chC : ChanCfg := { clock := 4, minDur := 16, rise := 12, pjt := 24 }
def chD : ChanCfg := { chC with minDur := 52 }

def devOf (c : ChanCfg) : Device := { chans := [c], dmms := [], reusable := false, maxSeqDur := none }

/-- two pulses of different phase on one channel (fall time 240 ns / 24 ns) -/
def twoPulses (fall : Nat) : List Op :=
  [.declare (.user 0) 0 none,
   .add { dur := 100, fallStd := fall, ref := 1 } (.user 0) (some .minDelay),
   .add { dur := 100, phase := 1, fallStd := fall, ref := 2 } (.user 0) (some .minDelay)]

/-- **F5** (`phase_jump_time`): the old strict comparison accepts the pair (the live one refuses it), every call is accepted
on both devices, and the second pulse starts at 580 on one and at 340 on the other. -/
theorem strict_phase_jump_counterexample :
    strictMatch oldStrictParams false chA chB = true ∧ strictMatch Generated.strictParams false chA chB = false ∧
    allOk (SeqState.init (devOf chA) 1) (twoPulses 240) = true ∧
    allOk (SeqState.init (devOf chB) 1) (twoPulses 240) = true ∧
    timeline (run (SeqState.init (devOf chA) 1) (twoPulses 240))
      ≠ timeline (run (SeqState.init (devOf chB) 1) (twoPulses 240)) := by decide +kernel

/-- **F5** (`min_duration`): the 48 ns phase-jump buffer becomes a 52 ns delay. -/
theorem strict_min_duration_counterexample :
    strictMatch oldStrictParams false chC chD = true ∧ strictMatch Generated.strictParams false chC chD = false ∧
    allOk (SeqState.init (devOf chC) 1) (twoPulses 24) = true ∧
    allOk (SeqState.init (devOf chD) 1) (twoPulses 24) = true ∧
    timeline (run (SeqState.init (devOf chC) 1) (twoPulses 24))
      ≠ timeline (run (SeqState.init (devOf chD) 1) (twoPulses 24)) := by decide +kernel

/-- (start, end) of every instruction, per declared channel. -/
def slotTimes (s : SeqState) : List (List (Int × Int)) := s.chans.map fun c => c.slots.map fun sl => (sl.ti, sl.tf)

/-- The numbers of the two F5 reproducers — the same as the implementation's
(corpus/C18/f5_*.json carry them as `expect` and the check compares them with the real run). -/
theorem f5_values :
    slotTimes (run (SeqState.init (devOf chA) 1) (twoPulses 240)) = [[(-1, 0), (0, 100), (100, 580), (580, 680)]] ∧
    slotTimes (run (SeqState.init (devOf chB) 1) (twoPulses 240)) = [[(-1, 0), (0, 100), (100, 340), (340, 440)]] ∧
    slotTimes (run (SeqState.init (devOf chC) 1) (twoPulses 24)) = [[(-1, 0), (0, 100), (100, 148), (148, 248)]] ∧
    slotTimes (run (SeqState.init (devOf chD) 1) (twoPulses 24)) = [[(-1, 0), (0, 100), (100, 152), (152, 252)]] := by
  decide +kernel

/-! ### (c) the replay: calls that name a renamed DMM channel (F18r) -/

def dmmCfg : ChanCfg := { isDmm := true, clock := 4, minDur := 16 }
def twoDmm (maxSeq : Option Nat) : Device :=
  { chans := [], dmms := [dmmCfg, dmmCfg], reusable := false, maxSeqDur := maxSeq }

/-- `config_detuning_map(dm, "dmm_1")`, `config_detuning_map(dm, "dmm_0")`, `delay(100, "dmm_0")` -/
def dmmSeq : SeqState :=
  run (SeqState.init (twoDmm none) 1)
    [.configDetMap 1 1 1, .configDetMap 0 1 1, .delay 100 (.dmm 0 0) false]

/-- Per declared channel of a switched sequence: its name and number of instructions. -/
def slotCounts (r : Except SwitchErr SeqState) : Option (List (ChName × Nat)) :=
  match r with
  | .ok s' => some (s'.chans.map fun c => (c.name, c.slots.length))
  | .error _ => none

/-- **F18r, before its repair** (`legacy` replay): switching (strict) to a device with the same two
DMMs succeeded with the first matching tried (`dmm_1 ↦ dmm_0`, `dmm_0 ↦ dmm_1`) and replayed
`delay(100, "dmm_0")` under the old name, i.e. on the image of the *other* DMM channel. -/
theorem dmm_rename_counterexample :
    (dmmSeq.chans.map fun c => (c.name, c.slots.length)) = [(.dmm 1 0, 1), (.dmm 0 0, 2)] ∧
    slotCounts (switchDevice (fun _ _ => true) dmmSeq (twoDmm (some 100000)) true (legacy := true))
      = some [(.dmm 0 0, 2), (.dmm 1 0, 1)] := by decide +kernel

/-- **After the repair** the replayed `delay` follows the renamed channel: the i-th declared channel
of the result has the instructions of the i-th declared channel of the original
(corpus/C18/f18r_dmm_renamed.json, `expect`). -/
theorem dmm_rename_values :
    slotTimes dmmSeq = [[(-1, 0)], [(-1, 0), (0, 100)]] ∧
    slotCounts (switchDevice (fun _ _ => true) dmmSeq (twoDmm (some 100000)) true)
      = some [(.dmm 0 0, 1), (.dmm 1 0, 2)] ∧
    (match switchDevice (fun _ _ => true) dmmSeq (twoDmm (some 100000)) true with
     | .ok s' => some (slotTimes s')
     | .error _ => none) = some [[(-1, 0)], [(-1, 0), (0, 100)]] := by decide +kernel

/-! ### switching the register -/

/-- The scheduler model never reads coordinates: switching to a register with the same number of
atoms is the replay of the call log on the initial state of the same device.  (This unfolds the
definition of `switchRegister`; that the replay reproduces the program is C09's `replay_log_total`.) -/
theorem switch_register_same_ids (s : SeqState) :
    switchRegister s s.nQ = s.calls.foldlM (fun st op =>
      let raw := stepRaw st op
      match raw.err with
      | some e => .error e
      | none => .ok { raw.st with chans := copyOracles s.chans raw.st.chans }) (SeqState.init s.dev s.nQ) := rfl

/-! ### non-vacuity -/

/-- `timing_congr`: two devices that differ in every limit, and a history accepted on both. -/
def exLim : ChanCfg := { chA with maxDur := some 1000, maxAmp := some 10, maxAbsDet := some 20, minAvgAmp := 1 / 2,
                                  maxTargets := some 1 }
example : devicesAgree (devOf chA) { devOf exLim with maxSeqDur := some 5000, reusable := true } = true ∧
    allOk (SeqState.init (devOf chA) 1) (twoPulses 240) = true ∧
    allOk (SeqState.init { devOf exLim with maxSeqDur := some 5000, reusable := true } 1) (twoPulses 240) = true := by
  decide +kernel

/-- `timing_fields_complete` / `strict_sound_of_complete`: the hypotheses are satisfiable. -/
example : agreeOn (timingFields ++ limitFields) chA chA = true := agreeOn_iff.mpr fun _ _ => rfl
example : retargetWF chA = true ∧ strictMatch Generated.strictParams false chA exLim = true := by decide +kernel
example : pairOk Generated.strictParams chA exLim = true := by decide +kernel
/-- `strict_identical`: a pair of devices that passes the live comparison, a history accepted on both. -/
example : listOk Generated.strictParams (devOf chA).chans (devOf exLim).chans = true ∧
    listOk Generated.strictParams (devOf chA).dmms (devOf exLim).dmms = true ∧
    allOk (SeqState.init (devOf exLim) 1) (twoPulses 240) = true := by decide +kernel
example : checkChannelsMatch chA exLim false true = .ok ∧ checkChannelsMatch chA chB false true = .strict ∧
    checkChannelsMatch chC chD false true = .strict := by decide +kernel
/-- an accepted call on a state with limits -/
example : (stepRaw (SeqState.init (devOf exLim) 1) (.declare (.user 0) 0 none)).err = none := by decide

end C18
end Pulser
