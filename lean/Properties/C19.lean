/-
  C19 — Layouts number traps canonically; registers, maps and layouts agree.

  Only property theorems (and their non-vacuity examples) live here; helper
  lemmas are in Proofs/Layout.lean.  Model: PulserModel/Layout.lean.

  Coordinates are integers in micro-units (the value `np.round(x, 6)` of the code,
  times 10⁶); the rounding itself and the float representation (dtype, `-0.0`) are
  outside the model and are tied by the harness (correspondence + monitor).

  Clauses of the property and the theorems that carry them
    "IDs depend only on the set of coordinates, ascending x, y, z"   ids_perm_invariant, ids_ascending,
                                                                     lexLt_2d, lexLt_3d, trap_lookup_perm_invariant
    "equality and static hash are order-independent"                 eq_hash_perm_invariant, eq_iff_same_traps
    "a register from trap IDs places each qubit exactly on its trap" define_register_places, define_register_accepts
    "… also for a register constructed directly with layout= /
     trap_ids=: it is accepted iff every qubit is exactly on the
     trap it claims, and then the look-up returns those IDs"         direct_register_iff, direct_register_places,
                                                                     direct_lookup_inverse
    "looking those coordinates up returns the same IDs"              lookup_inverse, lookup_inverse_built,
                                                                     lookup_sound, layout_coords_distinct
    "a mappable register places the chosen qubits in declared order" mappable_order, mappable_places
    "a detuning map gives each qubit the weight of the trap at its
     position (zero if none), independent of ordering"               weight_lookup, weight_zero,
                                                                     weight_perm_invariant, sorted_weights_perm_invariant,
                                                                     sorted_weights_aligned
-/
import Proofs.Layout
namespace Pulser
namespace C19
open Layout

/-- **Trap IDs depend only on the set of coordinates.**  Two layouts given the same
coordinates in any order have the same `sorted_coords`, i.e. the same trap at every
ID.  (No distinctness hypothesis is needed: the order is total on coordinates, so
even coinciding coordinates sort to the same list.) -/
theorem ids_perm_invariant {l₁ l₂ : List Coord} (h : l₁.Perm l₂) : sortLex l₁ = sortLex l₂ :=
  sortLex_eq_of_perm h

example : sortLex [[5000000, 0], [0, 1000000], [0, -1000000]]
    = sortLex [[0, -1000000], [5000000, 0], [0, 1000000]] :=
  ids_perm_invariant (by decide +kernel)

example : sortLex [[5000000, 0], [0, 1000000], [0, -1000000]]
    = [[0, -1000000], [0, 1000000], [5000000, 0]] := by decide +kernel

/-- **The numbering is the ascending one**: the traps are exactly the given
coordinates, and with distinct coordinates trap `i` is strictly before trap `j` in
(x, then y, then z) order whenever `i < j`. -/
theorem ids_ascending {l : List Coord} (hn : l.Nodup) :
    (sortLex l).Perm l ∧ (sortLex l).Pairwise (fun a b => lexLt a b = true) :=
  ⟨sortLex_perm l, sortLex_strict hn⟩

example : [[5000000, 0], [0, 1000000], [0, -1000000]].Nodup := by decide +kernel

/-- The order used is "ascending x, then y" … -/
theorem lexLt_2d (x y x' y' : Int) :
    lexLt [x, y] [x', y'] = true ↔ x < x' ∨ (x = x' ∧ y < y') := by
  simp [lexLt]

/-- … "then z". -/
theorem lexLt_3d (x y z x' y' z' : Int) :
    lexLt [x, y, z] [x', y', z'] = true ↔
      x < x' ∨ (x = x' ∧ (y < y' ∨ (y = y' ∧ z < z'))) := by
  simp [lexLt]

example : lexLt [0, 5, 9] [0, 6, -3] = true := by decide +kernel

/-- Looking a coordinate up gives the same trap ID whatever order the layout was
given in. -/
theorem trap_lookup_perm_invariant {L₁ L₂ : Layout} (h : L₁.coords.Perm L₂.coords)
    (cs : List Coord) : trapsFromCoords L₁ cs = trapsFromCoords L₂ cs := by
  have hs : L₁.sorted = L₂.sorted := ids_perm_invariant h
  induction cs with
  | nil => rfl
  | cons c rest ih => simp only [trapsFromCoords, hs, ih]

example : trapsFromCoords ⟨2, [[5, 0], [0, 1], [0, -1]]⟩ [[0, 1], [5, 0]] = .ok [1, 2] := by decide +kernel

/-- **Equality and the static hash are order-independent**: what `_safe_hash`
digests (`Layout.key`) is the same for two orderings of the same coordinates, and
`==` holds. -/
theorem eq_hash_perm_invariant {L₁ L₂ : Layout} (hd : L₁.dim = L₂.dim)
    (h : L₁.coords.Perm L₂.coords) : L₁.key = L₂.key ∧ L₁.eqv L₂ = true := by
  have hk : L₁.key = L₂.key := by
    unfold Layout.key Layout.sorted
    rw [hd, ids_perm_invariant h]
  exact ⟨hk, beq_iff_eq.mpr hk⟩

/-- … and conversely two layouts are equal only if they have the same traps. -/
theorem eq_iff_same_traps (L₁ L₂ : Layout) :
    L₁.eqv L₂ = true ↔ L₁.dim = L₂.dim ∧ L₁.coords.Perm L₂.coords := by
  rw [← sortLex_eq_iff_perm, Layout.eqv, beq_iff_eq, Layout.key, Layout.key, Prod.mk.injEq]
  rfl

example : (Layout.mk 2 [[5, 0], [0, 1]]).eqv (Layout.mk 2 [[0, 1], [5, 0]]) = true := by decide +kernel
example : (Layout.mk 2 [[5, 0], [0, 1]]).eqv (Layout.mk 2 [[0, 1], [5, 1]]) = false := by decide +kernel

/-- **Defining a register from trap IDs places each qubit exactly on that trap**:
when `define_register(*ids, qubit_ids=qids)` succeeds, the `k`-th qubit sits at the
coordinates of trap `ids[k]`, the qubit ids are the given ones (or `q0, q1, …`), the
recorded trap ids are `ids`, and all of them are IDs of the layout. -/
theorem define_register_places {L : Layout} {ids : List Nat} {qids : Option (List QId)} {r : Reg}
    (h : defineRegister L ids qids = .ok r) :
    r.qubits.map (·.2) = ids.map L.trapCoord ∧
    r.qubits.map (·.1) = (match truthy qids with
      | some qs => qs
      | none => defaultIds ids.length) ∧
    r.trapIds = ids ∧ r.dim = L.dim ∧ (∀ i ∈ ids, i < L.nTraps) := by
  obtain ⟨_, h2, _, h4, h5, h6, h7⟩ := defineRegister_ok h
  exact ⟨h6, h7, h5, h4, h2⟩

/-- … and it succeeds for every selection of distinct, existing trap IDs (no
spurious rejection). -/
theorem define_register_accepts (L : Layout) {ids : List Nat} (hn : ids.Nodup)
    (hb : ∀ i ∈ ids, i < L.nTraps) (hne : ids ≠ []) :
    ∃ r, defineRegister L ids none = .ok r := by
  refine ⟨{ dim := L.dim, qubits := (defaultIds ids.length).zip (ids.map L.trapCoord),
            trapIds := ids }, ?_⟩
  simp only [defineRegister, truthy, ite_err_eq_ok, Decidable.not_not, List.all_eq_true,
    decide_eq_true_eq]
  exact ⟨hn, hb, (place_eq_ok_iff (defaultIds_length _) hn).mpr ⟨hne, rfl⟩⟩

example : defineRegister ⟨2, [[5, 0], [0, 1], [0, -1]]⟩ [2, 0] none
    = .ok ⟨2, [("q0", [5, 0]), ("q1", [0, -1])], [2, 0]⟩ := by decide +kernel

/-- **Looking those coordinates up returns the same IDs** (layouts whose rounded
coordinates are distinct). -/
theorem lookup_inverse {L : Layout} (hn : L.coords.Nodup) {ids : List Nat}
    {qids : Option (List QId)} {r : Reg} (h : defineRegister L ids qids = .ok r) :
    trapsFromCoords L (r.qubits.map (·.2)) = .ok ids := by
  obtain ⟨_, h2, _, _, _, h6, _⟩ := defineRegister_ok h
  exact (trapsFromCoords_eq_ok_iff hn).mpr ⟨h2, h6.symm⟩

example : trapsFromCoords ⟨2, [[5, 0], [0, 1], [0, -1]]⟩ [[5, 0], [0, -1]] = .ok [2, 0] := by decide +kernel

/-- Without the distinctness hypothesis the conclusion fails (the near-tie collapse of
F13c: traps `(0,0)` and `(1e-8,0)` round to the same coordinate; both qubits would look up
to trap 1) … -/
example : trapsFromCoords ⟨2, [[0, 0], [0, 0], [3000000, 0]]⟩ [[0, 0], [0, 0]] = .ok [1, 1] := by
  decide +kernel

/-- … but such a layout cannot be constructed: **a constructed layout has pairwise distinct
rounded coordinates** (and 2 or 3 dimensions), so trap IDs and rounded coordinates are in
bijection. -/
theorem layout_coords_distinct {cs : List Coord} {L : Layout} (h : mkLayout cs = .ok L) :
    L.coords = cs ∧ L.coords.Nodup ∧ (L.dim = 2 ∨ L.dim = 3) := by
  cases cs with
  | nil => cases h
  | cons c rest =>
    simp only [mkLayout, ite_err_eq_ok, Decidable.not_not, Res.ok.injEq] at h
    obtain ⟨_, hdim, hn, rfl⟩ := h
    refine ⟨rfl, hn, ?_⟩
    exact Decidable.or_iff_not_imp_left.mpr (by simpa using hdim)

example : mkLayout [[0, 0], [0, 0], [3000000, 0]] = .err .notUnique := by decide +kernel
example : mkLayout [[5, 0], [0, 1], [0, -1]] = .ok ⟨2, [[5, 0], [0, 1], [0, -1]]⟩ := by decide +kernel

/-- Hence for every layout that can be constructed, looking up the coordinates of a register
defined from trap IDs returns those IDs. -/
theorem lookup_inverse_built {cs : List Coord} {L : Layout} (hL : mkLayout cs = .ok L)
    {ids : List Nat} {qids : Option (List QId)} {r : Reg} (h : defineRegister L ids qids = .ok r) :
    trapsFromCoords L (r.qubits.map (·.2)) = .ok ids :=
  lookup_inverse (layout_coords_distinct hL).2.1 h

/-- Whatever IDs a look-up returns, those traps are at the coordinates asked for. -/
theorem lookup_sound {L : Layout} {cs : List Coord} {is : List Nat}
    (h : trapsFromCoords L cs = .ok is) : is.map L.trapCoord = cs :=
  (trapsFromCoords_ok h).2

/-- **A register may only claim traps it sits on**: `Register(qubits, layout=L, trap_ids=ids)`
(also `Register3D`, `from_coordinates(…, layout=, trap_ids=)`, deserialisation) is accepted if and
only if it has qubits, the dimensionalities agree, the trap IDs are distinct, existing, one per
qubit, and every qubit is *exactly* on the trap it claims (no tolerance: the caller's raw
coordinate must be the rounded coordinate of the trap). -/
theorem direct_register_iff (L : Layout) (dim : Nat) (qs : List (QId × RPos)) (ids : List Nat) :
    (∃ r, mkRegisterDirect L dim qs ids = .ok r) ↔
      qs ≠ [] ∧ L.dim = dim ∧ ids.Nodup ∧ ids.length = qs.length ∧ (∀ i ∈ ids, i < L.nTraps) ∧
      qs.map (·.2) = ids.map (fun t => (L.trapCoord t).map (fun (z : Int) => (z : Rat))) := by
  simp only [mkRegisterDirect_eq_ok_iff, exists_and_left, exists_eq', and_true]
  exact ⟨fun ⟨h1, h2, h3, h5, h4, h6⟩ => ⟨h1, h2, h3, h4, h5, (allOnTraps_iff L h4).mp h6⟩,
    fun ⟨h1, h2, h3, h4, h5, h6⟩ => ⟨h1, h2, h3, h5, h4, (allOnTraps_iff L h4).mpr h6⟩⟩

/-- … so whatever way a register with layout information came to be, **each qubit is exactly on
its trap**, the recorded trap IDs are the claimed ones and they are IDs of the layout. -/
theorem direct_register_places {L : Layout} {dim : Nat} {qs : List (QId × RPos)} {ids : List Nat}
    {r : Reg} (h : mkRegisterDirect L dim qs ids = .ok r) :
    r.qubits.map (·.2) = ids.map L.trapCoord ∧ r.qubits.map (·.1) = qs.map (·.1) ∧
    r.trapIds = ids ∧ r.dim = L.dim ∧ (∀ i ∈ ids, i < L.nTraps) := by
  obtain ⟨_, h2, _, h5, h4, _, rfl⟩ := mkRegisterDirect_eq_ok_iff.mp h
  exact ⟨List.map_snd_zip (by simp [h4]), List.map_fst_zip (by simp [h4]), rfl, h2.symm, h5⟩

/-- … and **looking its coordinates up returns the trap IDs it carries**. -/
theorem direct_lookup_inverse {L : Layout} (hn : L.coords.Nodup) {dim : Nat}
    {qs : List (QId × RPos)} {ids : List Nat} {r : Reg}
    (h : mkRegisterDirect L dim qs ids = .ok r) :
    trapsFromCoords L (r.qubits.map (·.2)) = .ok ids := by
  obtain ⟨h1, _, _, _, h5⟩ := direct_register_places h
  exact (trapsFromCoords_eq_ok_iff hn).mpr ⟨h5, h1.symm⟩

example : mkRegisterDirect ⟨2, [[40000000, 0], [0, 3000000]]⟩ 2 [("a", [40000000, 0])] [1]
    = .ok ⟨2, [("a", [40000000, 0])], [1]⟩ := by decide +kernel
/-- 3·10⁻⁴ µm off a trap at x = 40 µm is not on the trap … -/
example : mkRegisterDirect ⟨2, [[40000000, 0], [0, 3000000]]⟩ 2 [("a", [40000300, 0])] [1]
    = .err .layoutMismatch := by decide +kernel
/-- … nor is a position that merely rounds to the trap's coordinate. -/
example : mkRegisterDirect ⟨2, [[40000000, 0], [0, 3000000]]⟩ 2 [("a", [400000000001 / 10000, 0])] [1]
    = .err .layoutMismatch := by decide +kernel

/-- **A mappable register places the chosen qubits on the mapped traps in declared
order**: a successful `build_register(qubits)` yields the first `len(qubits)` declared
qubit ids, in the declared order (whatever the order of the dict), each at the trap
the dict assigns to it. -/
theorem mappable_order {M : Mappable} {mapping : List (QId × Nat)} {r : Reg}
    (hn : M.qids.Nodup) (h : buildRegister M mapping = .ok r) :
    r.qubits.map (·.1) = M.qids.take mapping.length ∧
    r.qubits.map (·.2) =
      (M.qids.take mapping.length).map (fun q => M.layout.trapCoord ((mapping.lookup q).getD 0)) := by
  obtain ⟨_, _, h3, _, _, h6, h7⟩ := defineRegister_ok (buildRegister_ok hn h).2
  rw [List.map_map] at h6
  refine ⟨h7.trans ?_, h6⟩
  -- `define_register` is given the ids themselves, and there is at least one
  cases hq : M.qids.take mapping.length with
  | nil => rw [hq] at h3; exact absurd rfl h3
  | cons a l => rfl

/-- … i.e. qubit `q` mapped to trap `t` sits on trap `t`. -/
theorem mappable_places {M : Mappable} {mapping : List (QId × Nat)} {r : Reg}
    (hn : M.qids.Nodup) (hk : (mapping.map (·.1)).Nodup)
    (h : buildRegister M mapping = .ok r) {q : QId} {t : Nat} (hm : (q, t) ∈ mapping) :
    (q, M.layout.trapCoord t) ∈ r.qubits := by
  obtain ⟨h1, h2⟩ := mappable_order hn h
  have hz : r.qubits = (M.qids.take mapping.length).zip
      ((M.qids.take mapping.length).map
        (fun q => M.layout.trapCoord ((mapping.lookup q).getD 0))) :=
    List.zip_of_prod h1 h2
  -- `q` is among the first `len(mapping)` declared ids
  have hq : q ∈ M.qids.take mapping.length := by
    have hc : (mapping.map (·.1)).contains q = true :=
      List.contains_iff_mem.mpr (List.mem_map_of_mem (f := (·.1)) hm)
    have := sameSet_contains (buildRegister_ok hn h).1 q
    rw [hc] at this
    exact List.contains_iff_mem.mp this.symm
  rw [hz, ← List.map_prod_left_eq_zip]
  exact List.mem_map.mpr ⟨q, hq, by rw [lookup_of_mem_nodup hk hm]; rfl⟩

example : buildRegister ⟨⟨2, [[5, 0], [0, 1], [0, -1]]⟩, ["a", "b", "c"]⟩ [("b", 0), ("a", 2)]
    = .ok ⟨2, [("a", [5, 0]), ("b", [0, -1])], [2, 0]⟩ := by decide +kernel

example : buildRegister ⟨⟨2, [[5, 0], [0, 1], [0, -1]]⟩, ["a", "b", "c"]⟩ [("c", 0), ("a", 2)]
    = .err .notPrefix := by decide +kernel

/-- Traps of a map are *separated* when no two different traps are `isclose` to each
other (`rtol = 0`, `atol = 1e-6`: more than one micro-unit apart in some component). -/
def Separated (m : WeightMap) : Prop :=
  ∀ a ∈ m.traps, ∀ b ∈ m.traps, closeCoord a.1 b.1 = true → a.1 = b.1

/-- **A detuning map gives each qubit the weight of the trap at its position**: a
qubit sitting at the coordinates `c` of a trap declared with weight `w` gets exactly
`w` (traps with distinct rounded coordinates, separated by more than the look-up
tolerance). -/
theorem weight_lookup {m : WeightMap} (hn : (m.traps.map (·.1)).Nodup) (hs : Separated m)
    {c : Coord} {w : Rat} (hm : (c, w) ∈ m.traps) : m.weightOf c = w := by
  rw [weightOf_eq_unsorted]
  have : m.traps.filter (fun tw => closeCoord tw.1 c) = [(c, w)] := by
    apply filter_eq_singleton (nodup_of_nodup_map_fst hn) hm (closeCoord_self c)
    intro x hx hc
    exact eq_of_fst_eq hn hx hm (hs x hx (c, w) hm hc)
  rw [this]
  simp [Rat.add_zero]

/-- **… and zero if there is none** within the tolerance. -/
theorem weight_zero {m : WeightMap} {p : Coord}
    (h : ∀ tw ∈ m.traps, closeCoord tw.1 p = false) : m.weightOf p = 0 := by
  rw [weightOf_eq_unsorted]
  have : m.traps.filter (fun tw => closeCoord tw.1 p) = [] := by
    rw [List.filter_eq_nil_iff]
    intro a ha
    simp [h a ha]
  rw [this]
  rfl

/-- **Independent of ordering**: two maps that list the same (trap, weight) pairs in
different orders give every position the same weight … -/
theorem weight_perm_invariant {m₁ m₂ : WeightMap} (h : m₁.traps.Perm m₂.traps) (p : Coord) :
    m₁.weightOf p = m₂.weightOf p := by
  rw [weightOf_eq_unsorted, weightOf_eq_unsorted]
  exact sum_perm ((h.filter _).map _)

/-- … and, with distinct trap coordinates, have the same `sorted_coords`,
`sorted_weights`, hence the same hash and `==`. -/
theorem sorted_weights_perm_invariant {m₁ m₂ : WeightMap} (hd : m₁.dim = m₂.dim)
    (h : m₁.traps.Perm m₂.traps) (hn : (m₁.traps.map (·.1)).Nodup) :
    m₁.sortedWeights = m₂.sortedWeights ∧ m₁.key = m₂.key := by
  have : m₁.sortedTraps = m₂.sortedTraps := sortPairs_eq_of_perm h hn
  simp [WeightMap.key, WeightMap.sortedWeights, WeightMap.sortedCoords, this, hd]

/-- `sorted_weights[i]` is the weight of the trap with ID `i`: the traps of a map are
numbered like those of a layout with the same coordinates, and the (coordinate,
weight) pairs by trap ID are exactly the declared pairs. -/
theorem sorted_weights_aligned (m : WeightMap) :
    m.sortedCoords = sortLex (m.traps.map (·.1)) ∧
    m.sortedCoords.zip m.sortedWeights = m.sortedTraps ∧
    m.sortedTraps.Perm m.traps :=
  ⟨map_fst_sortPairs m.traps, (List.zip_of_prod rfl rfl).symm, sortPairs_perm m.traps⟩

def exMap : WeightMap := ⟨2, [([50000000, 0], 7 / 10), ([0, 0], 3 / 10)]⟩

example : (exMap.traps.map (·.1)).Nodup := by decide +kernel
example : exMap.sortedWeights = [3 / 10, 7 / 10] := by decide +kernel
example : exMap.weightOf [50000000, 0] = 7 / 10 := by decide +kernel
example : exMap.weightOf [20000000, 0] = 0 := by decide +kernel
example : (WeightMap.mk 2 exMap.traps.reverse).weightOf [0, 0] = exMap.weightOf [0, 0] :=
  weight_perm_invariant (List.reverse_perm _) _

/-- The tolerance of the look-up is one micro-unit per component, whatever the size of the
coordinate (F19 repaired: there used to be a relative term, and a qubit 3·10⁻⁴ µm away from
the trap at x = 50 µm received its weight). -/
example : exMap.weightOf [50000300, 0] = 0 := by decide +kernel
example : exMap.weightOf [50000001, 0] = 7 / 10 := by decide +kernel
example : exMap.weightOf [50000002, 0] = 0 := by decide +kernel

end C19
end Pulser
