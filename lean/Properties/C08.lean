/-
  C08 — Building a parametrized sequence equals direct construction.

  Model: PulserModel/Param.lean (templates = concrete prefix + stored calls with expression
  arguments; `build` = replay of `_calls` on a fresh sequence, then the stored calls with
  evaluated arguments; `buildM` = the same through the mutable variable store).

  What the Lean side canNOT exhibit, by construction: aliasing between the template and
  the built sequence, stale `ParamObj._instance` caches, `Variable._count` bookkeeping —
  a functional model has no object identity.  Those clauses ("building never alters the
  template", "successive builds are independent") are carried by the correspondence check
  harness/props/C08.py on the real objects; the theorems `build_pure` / `build_independent`
  below only say that nothing in the *algorithm* (assign all variables, evaluate, replay)
  depends on earlier builds.
-/
import Proofs.Param
import Proofs.ParamStore
import Proofs.ParamReplay
namespace Pulser
namespace C08
open Param

/-- Error of a direct script, translated to the error `build` reports (index relative to
the stored calls). -/
def liftDirect (n : Nat) : Except (Nat × Err) SeqState → Except PErr SeqState
  | .ok s => .ok s
  | .error (k, e) => .error (.buildFailed (k - n) e)

theorem build_eq_direct_of_replay (I : Interp) (ρ : Assign) (dev : Device) (nQ : Nat)
    (userOps : List Op) (t : Tmpl) (ops : List Op)
    (hpre : runAll (SeqState.init dev nQ) userOps = .ok t.pre)
    (hrep : run (SeqState.init t.pre.dev t.pre.nQ) t.pre.calls = t.pre)
    (hcov : covers t.vars ρ = true) (hev : evalOps I ρ t.stored = some ops) :
    build I t ρ = liftDirect userOps.length (runAll (SeqState.init dev nQ) (userOps ++ ops)) := by
  have hsplit := runAll_append_ok (b := ops) hpre
  unfold build
  simp only [hcov, hev, hrep, Bool.not_true, Bool.false_eq_true, if_false]
  rw [hsplit]
  have hshift := runAllFrom_shift userOps.length 0 t.pre ops
  simp only [Nat.add_zero] at hshift
  rw [hshift]
  unfold runAll
  cases runAllFrom 0 t.pre ops with
  | ok s => rfl
  | error x =>
    obtain ⟨k, e⟩ := x
    exact congrArg (fun k => Except.error (PErr.buildFailed k e)) (Nat.add_sub_cancel_left ..).symm

/-- **`build` returns the same sequence as issuing the same calls directly with the
evaluated values** (clause 1).  `userOps` are the concrete calls issued before the
sequence became parametrized, `t.stored` the calls stored afterwards, `ops` their
evaluation under `ρ`.  The direct construction is ONE script `userOps ++ ops` on a fresh
sequence; `build` replays the call log `_calls` of the template and then `ops`.  Both
succeed or fail together, with the same sequence resp. the same error at the same stored
call.

Hypotheses = exactly what the replay of `_calls` needs (`replay_prefix`): the prefix calls
all succeeded and are stored verbatim (`selfStored`: everything except `enable_eom_mode` /
`modify_eom_setpoint`, which store the chosen `detuning_off` instead of the requested
optimum — for those see `build_eq_direct_full`; calls that raised half-way, findings F2.x,
are excluded by `runAll … = .ok`).
Late `declare_channel` calls (issued while parametrized, hoisted by `build` before the
stored calls) are outside this statement: correspondence only. -/
theorem build_eq_direct (I : Interp) (ρ : Assign) (dev : Device) (nQ : Nat) (userOps : List Op)
    (t : Tmpl) (ops : List Op)
    (hpre : runAll (SeqState.init dev nQ) userOps = .ok t.pre)
    (hplain : ∀ op ∈ userOps, selfStored op = true)
    (hcov : covers t.vars ρ = true) (hev : evalOps I ρ t.stored = some ops) :
    build I t ρ = liftDirect userOps.length (runAll (SeqState.init dev nQ) (userOps ++ ops)) :=
  build_eq_direct_of_replay I ρ dev nQ userOps t ops hpre (replay_prefix hplain hpre) hcov hev

/-- **The same for every successful concrete prefix**, EOM calls included: with C09's
`step_record` (the stored `enable_eom_mode` / `modify_eom_setpoint` carries the chosen
off-detuning and replaying it chooses it again), the only requirement left is that the
detuning-off options of those calls are pairwise distinct (`NodupOpts`; they are values of a
strictly monotone function of the beams in the library, checked on the oracle by the harness
of C15).  Queries in the prefix are allowed. -/
theorem build_eq_direct_full (I : Interp) (ρ : Assign) (dev : Device) (nQ : Nat) (userOps : List Op)
    (t : Tmpl) (ops : List Op)
    (hpre : runAll (SeqState.init dev nQ) userOps = .ok t.pre)
    (hn : ∀ op ∈ userOps, NodupOpts op)
    (hcov : covers t.vars ρ = true) (hev : evalOps I ρ t.stored = some ops) :
    build I t ρ = liftDirect userOps.length (runAll (SeqState.init dev nQ) (userOps ++ ops)) :=
  build_eq_direct_of_replay I ρ dev nQ userOps t ops hpre (replay_prefix_full hn hpre) hcov hev

/-- The successful case, in the words of the property. -/
theorem build_ok_iff_direct_ok (I : Interp) (ρ : Assign) (dev : Device) (nQ : Nat)
    (userOps : List Op) (t : Tmpl) (ops : List Op) (s : SeqState)
    (hpre : runAll (SeqState.init dev nQ) userOps = .ok t.pre)
    (hplain : ∀ op ∈ userOps, selfStored op = true)
    (hcov : covers t.vars ρ = true) (hev : evalOps I ρ t.stored = some ops) :
    build I t ρ = .ok s ↔ runAll (SeqState.init dev nQ) (userOps ++ ops) = .ok s := by
  rw [build_eq_direct I ρ dev nQ userOps t ops hpre hplain hcov hev]
  cases runAll (SeqState.init dev nQ) (userOps ++ ops) with
  | ok s' => simp [liftDirect]
  | error x => obtain ⟨k, e⟩ := x; simp [liftDirect]

/-- The replay theorem used above, on its own: **the concrete prefix of a template is
reproduced by replaying its call log** (for successful, verbatim-stored calls). -/
theorem replay_prefix_partial {dev : Device} {nQ : Nat} {ops : List Op} {s : SeqState}
    (hs : ∀ op ∈ ops, selfStored op = true) (h : runAll (SeqState.init dev nQ) ops = .ok s) :
    run (SeqState.init s.dev s.nQ) s.calls = s := replay_prefix hs h

/-- Well-formed template: every variable of a stored call was declared by the sequence
(what `verify_variable` establishes at store time). -/
def WellFormed (t : Tmpl) : Prop := ∀ p ∈ t.stored, ∀ n ∈ p.vars, t.vars.any (·.1 == n) = true

/-- **Building never alters the template** (clause 2) — in this model `build` is a
function of the template *value*; the only thing the real method mutates on the template
side is the value store of the variables, and `buildM` returns the same result as the
pure `build` whatever that store contained before.  (Trivial for a functional model as
far as aliasing goes: see the header.) -/
theorem build_pure (I : Interp) (t : Tmpl) (st : VStore) (ρ : Assign) (hw : WellFormed t) :
    (buildM I t st ρ).2 = build I t ρ := by
  unfold buildM build
  by_cases hc : covers t.vars ρ = true
  · simp only [hc, Bool.not_true, Bool.false_eq_true, if_false]
    have hb : ∀ p ∈ t.stored, boundIn ρ p.vars :=
      fun p hp n hn => covers_bound hc (hw p hp n hn)
    have := evalOps_shadow I (st := st) t.stored hb
    unfold assignAll
    rw [this]
    cases evalOps I ρ t.stored with
    | none => rfl
    | some ops =>
      simp only
      cases runAll (run (SeqState.init t.pre.dev t.pre.nQ) t.pre.calls) ops with
      | ok s => rfl
      | error x => rfl
  · simp [hc]

/-- **Successive builds are independent and reproducible** (clause 2): the result of a
build after any earlier build (with different or identical values) is the result of that
build alone; in particular building twice with the same values gives the same sequence. -/
theorem build_independent (I : Interp) (t : Tmpl) (st : VStore) (ρ₁ ρ₂ : Assign)
    (hw : WellFormed t) :
    (buildM I t (buildM I t st ρ₁).1 ρ₂).2 = (buildM I t st ρ₂).2 := by
  rw [build_pure I t _ ρ₂ hw, build_pure I t st ρ₂ hw]

/-- The stored form of a call has the variables of the call (so storing keeps the template
well-formed: `tstep` refuses a call with an undeclared variable). -/
theorem storedForm_vars (t : Tmpl) (p : POp) : (storedForm t p).vars = p.vars := by
  unfold storedForm
  repeat' split
  all_goals rfl

/-- **A mappable register is resolved to exactly the requested traps, in declared qubit
order** (clause 3): `declared` = the qubit ids of the `MappableRegister` in declaration
order (distinct), `chosen` = the `qubits` mapping given to `build` (distinct keys, any
order).  When `build_register` accepts it, the register consists of the first
`len(chosen)` declared ids, in declared order, each on the trap requested for it. -/
theorem mappable_order (declared : List Nat) (chosen reg : List (Nat × Nat))
    (hd : declared.Nodup)
    (h : buildRegister declared chosen = some reg) :
    reg.map (·.1) = declared.take chosen.length ∧
    ∀ q ∈ reg, chosen.lookup q.1 = some q.2 := by
  -- both tests passed: the chosen ids are, as sets, the first `len(chosen)` declared ids
  simp only [buildRegister, Option.ite_none_left_eq_some, Bool.not_eq_true', Bool.not_eq_false, Bool.and_eq_true,
    List.all_eq_true, List.contains_iff_mem, Option.some.injEq] at h
  obtain ⟨-, ⟨h1, h2⟩, rfl⟩ := h
  rw [filter_take_of_sets hd h1 h2, List.length_map] at *
  refine ⟨?_, fun q hq => ?_⟩
  · -- every id of the first k declared ids has a trap in `chosen`, so none is filtered out
    generalize declared.take chosen.length = l at h2
    induction l with
    | nil => rfl
    | cons x rest ih =>
      obtain ⟨⟨a, b⟩, hab, rfl⟩ := List.mem_map.mp (h2 _ List.mem_cons_self)
      obtain ⟨tr, hl⟩ := Option.isSome_iff_exists.mp (List.lookup_isSome_iff.mpr ⟨(a, b), hab, beq_self_eq_true a⟩)
      rw [List.filterMap_cons, hl, Option.map_some, List.map_cons, ih fun id hid => h2 id (List.mem_cons_of_mem _ hid)]
  · obtain ⟨id, -, hq⟩ := List.mem_filterMap.mp hq
    obtain ⟨tr, hl, rfl⟩ := Option.map_eq_some_iff.mp hq
    exact hl

/-- **Index-based targeting resolves against that order** (clause 3): index `i` of the
built register is the `i`-th declared qubit id. -/
theorem index_resolves_declared_order (declared : List Nat) (chosen reg : List (Nat × Nat))
    (hd : declared.Nodup) (h : buildRegister declared chosen = some reg) (i : Nat)
    (hi : i < chosen.length) :
    resolveIndex reg i = declared[i]? := by
  have h1 := (mappable_order declared chosen reg hd h).1
  unfold resolveIndex
  have : (reg.map (·.1))[i]? = (declared.take chosen.length)[i]? := by rw [h1]
  rw [List.getElem?_map] at this
  rw [this, List.getElem?_take]
  simp [hi]

/-- **No spurious rejection at store time** (the store-time checks are implied by the
build-time checks): let `userOps` be the successful concrete calls issued before the sequence
became parametrized (not measured), `stored` the calls issued afterwards and `ops` their
evaluation under `ρ`.  If the DIRECT construction `userOps ++ ops` succeeds, then every call
of `stored`, taken in order, passes all the checks it goes through when it is stored
(`storeCheck`: `@block_if_measured` via `_param_measurement`, `_validate_channel` on the
declared channels, the EOM mode read off the stored calls by `is_in_eom_mode`, DMM / non-DMM,
protocol, `validate_duration` of a concrete `add_eom_pulse` duration, `validate_pulse` of a
concrete pulse, `_process_eom_parameters` of concrete EOM arguments, emptiness / addressing /
`max_targets` / index range of targets, the checks of `align`, the basis of a phase shift, the
measurement basis).  Hypothesis `targetsDistinct`: the indices an ARRAY variable evaluates to
are pairwise distinct — without it the statement is false
(`store_rejects_what_direct_accepts`).  Outside the statement: `declare_channel` /
`config_detuning_map` issued while parametrized (they are not in the `POp` language). -/
theorem store_no_spurious_reject (I : Interp) (ρ : Assign) (dev : Device) (nQ : Nat)
    (userOps : List Op) (pre : SeqState) (vars : List (Nat × Nat)) (stored : List POp) (ops : List Op)
    (s' : SeqState)
    (hpre : runAll (SeqState.init dev nQ) userOps = .ok pre)
    (hb : ∀ op ∈ userOps, building op = true) (hm : pre.measured = none)
    (hev : evalOps I ρ stored = some ops)
    (hdirect : runAll (SeqState.init dev nQ) (userOps ++ ops) = .ok s')
    (hnd : ∀ p ∈ stored, targetsDistinct I ρ p) :
    acceptsAll { pre := pre, stored := [], vars := vars, param := true, paramMeas := none } stored = true := by
  have hinv : PreInv pre := preInv_runAll (preInv_init dev nQ) hb hpre
  have hrun := runAll_append_ok (b := ops) hpre
  rw [hrun] at hdirect
  exact acceptsAll_of_direct I ρ (agree_init vars hinv hm) hev hdirect hnd

/-- … and an accepted call is stored by `tstep` exactly as `storeT` says (so `acceptsAll` is
"`tstep` never raises along the stored list"). -/
theorem tstep_stores_accepted {t : Tmpl} {p : POp} (hp : t.param = true) (hv : varsDeclared t p = true)
    (hc : storeCheck t p = none) : tstep t p = (storeT t p, none) := by
  have ht : (if p.isParam = true then ({ t with param := true } : Tmpl) else t) = t := by
    split
    · rw [← hp]
    · rfl
  unfold tstep storeT
  simp only [ht, hv, Bool.not_true, Bool.and_false, Bool.false_eq_true, if_false, hp, hc]
  cases p <;> rfl

/-! ### Findings visible in the model -/

def exCfg : ChanCfg := { clock := 4, minDur := 16, rise := 120, pjt := 240, isLocal := true,
                         maxTargets := some 1 }
def exDev : Device := { chans := [exCfg], dmms := [], reusable := false, maxSeqDur := none }
def exPre : SeqState := run (SeqState.init exDev 2) [.declare (.user 0) 0 (some [0])]
def exT : Tmpl := { pre := exPre, vars := [(0, 1), (1, 2)] }

/-- Finding F3 (owned by C09, repaired in /repo): **a call that uses a variable this sequence
never declared is refused and leaves the template exactly as it was** — in particular it does
not turn the sequence parametrized (`verify_variable` used to set `_building = False` before
it checked the variables). -/
theorem foreign_variable_refused (t : Tmpl) (p : POp) (hp : p.isParam = true)
    (hv : varsDeclared t p = false) : tstep t p = (t, some .unknownVariable) := by
  unfold tstep
  simp [hp, hv]

/-- Finding F41 (owned by C09, repaired in /repo): **any refused call that carries a variable
leaves the template exactly as it was** — unknown variable or failed store-time check alike; in
particular a sequence that was not parametrized does not become so (`verify_parametrization`
puts `_building` back when the call raises). -/
theorem refused_call_keeps_template (t : Tmpl) (p : POp) (hp : p.isParam = true) (e : PErr)
    (h : (tstep t p).2 = some e) : (tstep t p).1 = t := by
  unfold tstep at h ⊢
  by_cases hv : varsDeclared t p = true
  · simp only [hp, hv, Bool.not_true, Bool.and_false, Bool.false_eq_true, if_false, if_true] at h ⊢
    split
    · rfl
    · rename_i hs
      rw [hs] at h
      cases p <;> simp at h
  · have hv' : varsDeclared t p = false := by simpa using hv
    simp [hp, hv']

/-- Observation (not a violation of the property as stated, which quantifies over
templates that exist): store-time checks CAN reject a call that the direct construction
with the evaluated values accepts — `target_index` with an array variable of size 2 on a
channel with `max_targets = 1` is refused when stored (the size of the variable is
compared with `max_targets`), although with values `[1, 1]` the direct call targets one
qubit and succeeds.  This is why `store_no_spurious_reject` above needs the hypothesis
`targetsDistinct`: the evaluated indices are distinct. -/
theorem store_rejects_what_direct_accepts :
    let I : Interp := ⟨fun _ _ => none, fun _ _ => none, fun _ _ _ _ _ => none, fun _ _ => (0, 0)⟩
    let t : Tmpl := { exT with param := true }
    let p : POp := .target (.arr [.var 1 0, .var 1 1]) (.user 0)
    storeCheck t p = some .tooManyTargets ∧
    (evalOp I [(1, [1, 1])] p).map (fun op => (stepRaw t.pre op).err) = some none := by
  decide +kernel

/-! ### Non-vacuity -/

example : (POp.delay (.param (.var 7 0)) (.user 0) false).isParam = true ∧
    varsDeclared exT (.delay (.param (.var 7 0)) (.user 0) false) = false ∧ exT.param = false := by decide +kernel

def idI : Interp := ⟨fun f x => if f = 0 then some (if x < 0 then -x else x) else none,
                     fun _ _ => none, fun _ _ _ _ _ => none, fun _ _ => (0, 0)⟩

/-- a template: delay(2*x+4), target_index(arr), phase_shift_index(|y|, 1) -/
def exStored : List POp :=
  [.delay (.param (.add (.mul (.const 2) (.var 0 0)) (.const 4))) (.user 0) false,
   .target (.arr [.var 1 1]) (.user 0),
   .phaseShift (.param (.fn 0 (.neg (.var 0 0)))) [.conc 1] .groundRydberg]
def exT2 : Tmpl := { exT with stored := exStored, param := true }

example : (build idI exT2 [(0, [10]), (1, [0, 1])]).toOption.map (fun s => s.calls.length) = some 4 := by
  decide +kernel
example : evalOps idI [(0, [10]), (1, [0, 1])] exStored =
    some [.delay 24 (.user 0) false, .target [1] (.user 0), .phaseShift 10 [1] .groundRydberg] := by
  decide +kernel
-- hypotheses of build_eq_direct are satisfiable
example : runAll (SeqState.init exDev 2) [.declare (.user 0) 0 (some [0])] = .ok exT2.pre := by
  decide +kernel
example : covers exT2.vars [(0, [10]), (1, [0, 1])] = true := by decide +kernel
-- builds with different values give different sequences; rebuilding gives the same one
example : build idI exT2 [(0, [10]), (1, [0, 1])] ≠ build idI exT2 [(0, [12]), (1, [0, 1])] := by
  decide +kernel
example : (buildM idI exT2 (buildM idI exT2 [] [(0, [12]), (1, [1, 0])]).1 [(0, [10]), (1, [0, 1])]).2
    = build idI exT2 [(0, [10]), (1, [0, 1])] := by decide +kernel
-- store_no_spurious_reject: the stored list of the example is accepted call by call
example : acceptsAll { pre := exPre, stored := [], vars := exT.vars, param := true, paramMeas := none } exStored
    = true := by decide +kernel
-- a missing value is an error, not a stale value
example : build idI exT2 [(0, [10])] = .error .missingValue := by decide +kernel
-- mappable register: ids 5,6,7,8 declared; the caller gives {6 ↦ trap 3, 5 ↦ trap 9}
example : buildRegister [5, 6, 7, 8] [(6, 3), (5, 9)] = some [(5, 9), (6, 3)] := by decide +kernel
example : resolveIndex [(5, 9), (6, 3)] 1 = some 6 := by decide +kernel
example : buildRegister [5, 6, 7, 8] [(7, 3), (5, 9)] = none := by decide +kernel

end C08
end Pulser
