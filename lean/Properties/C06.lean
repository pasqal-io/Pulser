/-
  C06 — Sampling renders the schedule exactly (structure).

  Model: PulserModel/Sampler.lean (structural rendering of `_ChannelSchedule.get_samples`,
  `ChannelSamples.extend_duration`, `SequenceSamples.to_nested_dict`).  A sample is the
  multiset of its terms `(instruction number, index into that pulse's own samples)`; the
  phase array holds the instruction number of the pulse whose phase is painted there.
  The values of the pulses' samples are not modelled (C16).

  The theorems about what lies inside a pulse assume the timeline invariant `ChanInv` of C02,
  which by `C02.timeline_inv` holds for every channel of every reachable sequence.
  Helper lemmas are in Proofs/Sampler.lean.
-/
import Proofs.Sampler
import Properties.C02
namespace Pulser
namespace C06

/-- **Amplitude inside a pulse**: at a time inside pulse instruction `i` the amplitude
sample is the single term "sample `t − ti` of that pulse" — pulses never overlap, so the
"sum of the pulses scheduled at that time" has exactly one term. -/
theorem amp_unique {ms : Option Nat} {c : ChanState} (h : ChanInv ms c) {i : Nat} {s : Slot}
    {p : PulseRec} (hs : IsPulseSlot c i s p) {t : Int} (h1 : s.ti ≤ t) (h2 : t < s.tf) :
    ampAt c t = [(i, t - s.ti)] :=
  contribAt_unique (psOk_of_inv h).sorted hs.mem h1 h2

/-- **Amplitude elsewhere**: outside every pulse instruction the sum is empty (zero). -/
theorem amp_zero_outside {c : ChanState} {t : Int}
    (hout : ∀ i s p, IsPulseSlot c i s p → ¬ (s.ti ≤ t ∧ t < s.tf)) : ampAt c t = [] :=
  contribAt_none fun a ha => hout a.idx a.s a.p (mem_pulseSlots.mp ha)

/-- **Detuning inside a pulse** (a detuned delay of EOM mode is such a pulse: its constant
detuning is the off-detuning, `mkDetunedDelay`). -/
theorem det_unique {ms : Option Nat} {c : ChanState} (h : ChanInv ms c) {i : Nat} {s : Slot}
    {p : PulseRec} (hs : IsPulseSlot c i s p) {t : Int} (h1 : s.ti ≤ t) (h2 : t < s.tf) :
    detAt c t = [(i, t - s.ti)] :=
  contribAt_unique (psOk_of_inv h).sorted hs.mem h1 h2

/-- **Detuning elsewhere** is zero. -/
theorem det_zero_outside {c : ChanState} {t : Int}
    (hout : ∀ i s p, IsPulseSlot c i s p → ¬ (s.ti ≤ t ∧ t < s.tf)) : detAt c t = [] :=
  contribAt_none fun a ha => hout a.idx a.s a.p (mem_pulseSlots.mp ha)

/-- **Idling in EOM mode**: what the scheduler appends while a channel idles in EOM mode with a
non-zero off-detuning (`mkDetunedDelay`, used by `add_delay` and by the EOM buffers) is a
pulse instruction — so `det_unique` / `amp_unique` apply to it — whose waveforms are the
constants amplitude 0 and detuning `detuning_off`; it is a detuned delay, whose phase the
sampler does not paint.  (That idle time in EOM mode *is* such an instruction is C15.) -/
theorem eom_idle_pulse {c : ChanState} {d : Nat} {detOff ph : Rat} {p : PulseRec}
    (h : mkDetunedDelay c d detOff ph = .ok p) :
    p.const = true ∧ p.amp = 0 ∧ p.det = detOff ∧ p.dd = true ∧ p.dur = d ∧ p.ref = 0 := by
  unfold mkDetunedDelay at h
  cases hl : c.lookupDD detOff d with
  | none => rw [hl] at h; cases h
  | some v =>
    rw [hl] at h; obtain ⟨a, b⟩ := v; injection h with h; subst h
    exact ⟨rfl, rfl, rfl, rfl, rfl, rfl⟩

/-- The same as values: for any samples `σ slot index`, the rendered amplitude is the pulse's
own sample inside a pulse and `0` outside every pulse. -/
theorem amp_value {ms : Option Nat} {c : ChanState} (h : ChanInv ms c) (σ : Nat → Int → Rat) (t : Int) :
    (∀ i s p, IsPulseSlot c i s p → s.ti ≤ t → t < s.tf →
      termsValue σ (ampAt c t) = σ i (t - s.ti)) ∧
    ((∀ i s p, IsPulseSlot c i s p → ¬ (s.ti ≤ t ∧ t < s.tf)) → termsValue σ (ampAt c t) = 0) := by
  refine ⟨fun i s p hs h1 h2 => ?_, fun hout => ?_⟩
  · rw [amp_unique h hs h1 h2]; simp [termsValue, Rat.add_zero]
  · rw [amp_zero_outside hout]; rfl

/-- **Phase over a pulse**: over the interval of a pulse that is not an ignored detuned
delay the phase array holds that pulse — the overwrite `phase[t_start:] = …` of a later
pulse starts at or after the end of the previous counted pulse, so it never clobbers an
earlier pulse's own interval; and `t_start ≤ ti`. -/
theorem phase_on_pulse {ms : Option Nat} {c : ChanState} (h : ChanInv ms c) (ign : Bool) {i : Nat}
    {s : Slot} {p : PulseRec} (hs : IsPulseSlot c i s p) (hdd : ¬ (ign = true ∧ p.dd = true))
    {t : Int} (h1 : s.ti ≤ t) (h2 : t < s.tf) : phaseAt c ign t = some i := by
  have ok := psOk_of_inv h
  exact paintLoop_on_pulse c.cfg.pjt ign ok.sorted (fun y hy => ⟨ok.nonneg y hy, ok.le y hy⟩) hs.mem
    (counts_eq_true.mpr hdd) h1 h2 _

/-- **Phase without pulses**: when no pulse counts (no pulse at all, or only ignored detuned
delays) the phase array keeps its initial zeros. -/
theorem phase_zero_without_pulse {c : ChanState} (ign : Bool)
    (hno : ∀ i s p, IsPulseSlot c i s p → ign = true ∧ p.dd = true) (t : Int) :
    phaseAt c ign t = none :=
  paintLoop_none c.cfg.pjt ign t c.pulseSlots [] _ fun y hy => Bool.eq_false_iff.mpr fun hc =>
    counts_eq_true.mp hc (hno y.idx y.s y.p (mem_pulseSlots.mp hy))

/-- **Array length**: the three arrays have one sample per nanosecond of the channel's
duration (`get_duration()`), sample `t` being the rendering at `t`; and every pulse lies
inside the arrays, occupying exactly as many samples as it has (so no slice of
`get_samples` is clipped). -/
theorem array_length {ms : Option Nat} {c : ChanState} (h : ChanInv ms c) (ign : Bool) :
    ((getSamples c ign).amp.length : Int) = c.getDuration false ∧
    (getSamples c ign).det.length = (getSamples c ign).amp.length ∧
    (getSamples c ign).phase.length = (getSamples c ign).amp.length ∧
    (∀ t : Nat, t < (getSamples c ign).amp.length →
      (getSamples c ign).amp[t]? = some (ampAt c t) ∧
      (getSamples c ign).det[t]? = some ⟨detAt c t, 0⟩ ∧
      (getSamples c ign).phase[t]? = some (phaseAt c ign t)) ∧
    (∀ i s p, IsPulseSlot c i s p → 0 ≤ s.ti ∧ s.tf = s.ti + p.dur ∧ s.tf ≤ c.getDuration false) := by
  have hnn := getDuration_nonneg h
  have ok := psOk_of_inv h
  refine ⟨?_, ?_, ?_, ?_, ?_⟩
  · simp only [getSamples, List.length_map, List.length_range, ChanState.sampleLen]
    exact Int.toNat_of_nonneg hnn
  · simp only [getSamples, List.length_map]
  · simp only [getSamples, List.length_map]
  · intro t ht
    simp only [getSamples, List.length_map, List.length_range] at ht
    simp only [getSamples, List.getElem?_map, List.getElem?_range ht, Option.map_some, and_self]
  · intro i s p hs
    exact ⟨ok.nonneg _ hs.mem, ok.durEq _ hs.mem, ok.bound _ hs.mem⟩

/-- **Extending only pads**: `extend_duration(n)` succeeds exactly when `n` is not below the
current duration; the result has `n` samples, the old samples unchanged, and every new
sample is: amplitude zero, detuning the off-detuning if the channel is still in EOM mode
(else zero), phase the last phase sample (zero for an empty channel).  Slots are kept. -/
theorem extend_pads (cs : ChanSamples) (n : Int)
    (hd : cs.det.length = cs.amp.length) (hp : cs.phase.length = cs.amp.length) :
    (n < cs.duration → extendDuration cs n = none) ∧
    ((cs.duration : Int) ≤ n → ∃ e, extendDuration cs n = some e ∧
      (e.amp.length : Int) = n ∧ e.det.length = e.amp.length ∧ e.phase.length = e.amp.length ∧
      e.slots = cs.slots ∧ e.openDetOff = cs.openDetOff ∧ e.initialTargets = cs.initialTargets ∧
      (∀ t : Nat, t < cs.duration →
        e.amp[t]? = cs.amp[t]? ∧ e.det[t]? = cs.det[t]? ∧ e.phase[t]? = cs.phase[t]?) ∧
      (∀ t : Nat, cs.duration ≤ t → (t : Int) < n →
        e.amp[t]? = some [] ∧
        e.det[t]? = some ⟨[], cs.openDetOff.getD 0⟩ ∧
        e.phase[t]? = some (cs.phase.getLast?.getD none))) := by
  refine ⟨extendDuration_lt, fun hle => ?_⟩
  obtain ⟨k, rfl⟩ := Int.le.dest hle
  refine ⟨_, extendDuration_add cs k, ?_, ?_, ?_, rfl, rfl, rfl, fun t ht => ?_, fun t ht1 ht2 => ?_⟩
  · simp only [List.length_append, List.length_replicate, ChanSamples.duration]; omega
  · simp only [List.length_append, List.length_replicate, hd]
  · simp only [List.length_append, List.length_replicate, hp]
  · exact ⟨List.getElem?_append_left ht, List.getElem?_append_left (hd ▸ ht),
      List.getElem?_append_left (hp ▸ ht)⟩
  · have hk : t - cs.amp.length < k := Nat.sub_lt_left_of_lt_add ht1 (Int.ofNat_lt.mp ht2)
    refine ⟨?_, ?_, ?_⟩
    · rw [List.getElem?_append_right ht1, List.getElem?_replicate_of_lt hk]
    · rw [List.getElem?_append_right (hd ▸ ht1), hd, List.getElem?_replicate_of_lt hk]
    · rw [List.getElem?_append_right (hp ▸ ht1), hp, List.getElem?_replicate_of_lt hk]

/-- `extend_pads` applies to the samples of every channel. -/
theorem extend_pads_samples (c : ChanState) (ign : Bool) :
    (getSamples c ign).det.length = (getSamples c ign).amp.length ∧
    (getSamples c ign).phase.length = (getSamples c ign).amp.length ∧
    (getSamples c ign).openDetOff = c.openDetOff := by
  simp [getSamples]

/-- **Per-atom attribution (Local channel, DMM, or `all_local`)**: at a time inside pulse
instruction `i` the channel's sample — which is that pulse alone — is added to the entry of
atom `q` in the channel's basis exactly when `q` is a target of the pulse, except that in XY
mode a masked atom receives nothing before the mask end; the detuning is multiplied by the
atom's detuning-map weight on a DMM and by 1 otherwise. -/
theorem per_qubit_attribution {ms : Option Nat} {c : ChanState} (h : ChanInv ms c) {i : Nat}
    {s : Slot} {p : PulseRec} (hs : IsPulseSlot c i s p) {t : Int} (h1 : s.ti ≤ t) (h2 : t < s.tf)
    (weights : List Rat) (allLocal : Bool) (m : SlmMask) (k : Nat)
    (hb : (c.view weights).globalBranch allLocal = false) (q : Nat) :
    ampAt c t = [(i, t - s.ti)] ∧ detAt c t = [(i, t - s.ti)] ∧
    ((∃ w, (k, w) ∈ attribAt (chanInstrs allLocal m k (c.view weights)) c.cfg.basis (some q) t) ↔
      (q ∈ s.targets ∧ ¬ (c.cfg.basis = .xy ∧ q ∈ m.targets ∧ t < m.end_))) ∧
    (∀ w, (k, w) ∈ attribAt (chanInstrs allLocal m k (c.view weights)) c.cfg.basis (some q) t →
      w = (if c.cfg.isDmm then weights.getD q 0 else 1)) := by
  have ok := psOk_of_inv h
  -- the slices containing `t` are those of the slot of pulse `i`
  obtain ⟨wA, sw, hsw, e1, e2, e3⟩ := slotWindows_window c (c.view weights).openEom (x := ⟨i, s, p⟩)
    h1 h2 ok.sorted ok.le hs.mem
  have hne : (c.view weights).slots.isEmpty = false :=
    List.isEmpty_eq_false_iff_exists_mem.mpr ⟨_, mem_slotWindows hsw⟩
  refine ⟨amp_unique h hs h1 h2, det_unique h hs h1 h2, ?_, ?_⟩
  · refine (attrib_local_iff hb hne q t).trans (and_congr_left fun _ => ⟨?_, fun hq => ?_⟩)
    · rintro ⟨sw', hs', hq, a, b⟩
      exact (wA sw' hs' a b).2 ▸ hq
    · exact ⟨sw, hsw, e2 ▸ hq, e1 ▸ h1, e3⟩
  · intro w hw
    obtain ⟨_, _, _, e', e, _⟩ := (mem_attrib_local hb).mp hw
    cases e'; rw [e]; rfl

/-- **A channel left in EOM mode keeps its last targets until the end** (Local channel, DMM or
`all_local`): after the start of its last pulse-target slot, the channel's samples — beyond
its own duration these are the padding of `extend_pads`: amplitude 0, detuning the
off-detuning, last phase — keep being added to the entries of exactly the targets of that
slot, whatever the time; for a channel that is not in EOM mode the slot ends at its `tf`. -/
theorem eom_tail_attribution (allLocal : Bool) (m : SlmMask) (k : Nat) (v : ChanView)
    (hb : v.globalBranch allLocal = false) (pre : List PTSlot) (last : PTSlot)
    (hsl : v.slots = pre ++ [last]) (hxy : v.basis ≠ .xy) (q : Nat) (t : Int) (ht : last.ti ≤ t)
    (hpre : ∀ s ∈ pre, s.tf ≤ last.ti) :
    ((∃ w, (k, w) ∈ attribAt (chanInstrs allLocal m k v) v.basis (some q) t) ↔
      (q ∈ last.targets ∧ (v.openEom = true ∨ t < last.tf))) := by
  have hne : v.slots.isEmpty = false := by rw [hsl]; cases pre <;> rfl
  rw [attrib_local_iff hb hne, hsl, slotWindows_concat, and_iff_left fun hx => hxy hx.1]
  -- of the slices, only the last one reaches `last.ti`
  constructor
  · rintro ⟨sw, hs, hq, a, b⟩
    rcases List.mem_append.mp hs with hs | hs
    · obtain ⟨s, hs', rfl⟩ := List.mem_map.mp hs
      exact absurd (Int.lt_of_lt_of_le (b : t < s.tf) (hpre s hs')) (Int.not_lt.mpr ht)
    · cases List.mem_singleton.mp hs
      exact ⟨hq, inHi_ite.mp b⟩
  · rintro ⟨hq, ho⟩
    exact ⟨_, List.mem_append_right _ (List.mem_singleton.mpr rfl), hq, ht, inHi_ite.mpr ho⟩

/-- **Per-atom attribution (Global channel, not `all_local`)**: the channel's samples are
added to the `Global` entry of its basis — i.e. to every atom — at every time from `start_t`
on (`start_t = 0` outside XY mode or without an SLM mask); before a non-zero `start_t` they
go to the `Local` entries of exactly the unmasked targets of the first pulse (to none when the
channel has no pulse), so masked atoms receive nothing while the mask is on. -/
theorem global_attribution (allLocal : Bool) (m : SlmMask) (k : Nat) (v : ChanView)
    (hb : v.globalBranch allLocal = true) (t : Int) (ht : 0 ≤ t) :
    ((∃ w, (k, w) ∈ attribAt (chanInstrs allLocal m k v) v.basis none t) ↔ startT m v ≤ t) ∧
    (∀ q, (∃ w, (k, w) ∈ attribAt (chanInstrs allLocal m k v) v.basis (some q) t) ↔
      (startT m v ≠ 0 ∧ t < startT m v ∧ (∃ s0, v.slots.head? = some s0 ∧ q ∈ s0.targets) ∧
        ¬ q ∈ m.targets)) ∧
    ((v.basis ≠ .xy ∨ m.end_ = 0) → startT m v = 0) := by
  refine ⟨?_, ?_, ?_⟩
  · constructor
    · rintro ⟨w, hw⟩; exact ((mem_attrib_global hb).mp hw).2.2.2
    · intro hle; exact ⟨1, (mem_attrib_global hb).mpr ⟨rfl, rfl, rfl, hle⟩⟩
  · intro q
    constructor
    · rintro ⟨w, hw⟩
      obtain ⟨_, _, _, a, _, b, c', d⟩ := (mem_attrib_global hb).mp hw
      exact ⟨a, b, c', by simpa using d⟩
    · rintro ⟨a, b, c', d⟩
      exact ⟨1, (mem_attrib_global hb).mpr ⟨rfl, rfl, rfl, a, ht, b, c', by simpa using d⟩⟩
  · rintro (hh | hh)
    · exact if_neg fun e => hh (beq_iff_eq.mp e)
    · unfold startT; rw [hh]; exact ite_self _

/-- Every accumulation statement of `to_nested_dict` of the channel at position `k` carries
`k`: in the whole dictionary, what entry `(b, q)` receives at `t` from position `k` is what
the loop body of the channel at that position adds. -/
theorem attribution_by_channel (allLocal : Bool) (m : SlmMask) (views : List ChanView) (b : Basis)
    (q : Option Nat) (t : Int) (k : Nat) (w : Rat) :
    (k, w) ∈ attribAt (nestedInstrs allLocal m views) b q t ↔
      ∃ v, views[k]? = some v ∧ (k, w) ∈ attribAt (chanInstrs allLocal m k v) b q t := by
  constructor
  · intro h
    obtain ⟨lo, hi, hm, h12⟩ := mem_attribAt.mp h
    obtain ⟨j, v, hv, hiv⟩ := mem_nestedInstrs.mp hm
    have hjv := mem_attribAt.mpr ⟨lo, hi, hiv, h12⟩
    cases attribAt_chan hjv
    exact ⟨v, hv, hjv⟩
  · rintro ⟨v, hv, h⟩
    obtain ⟨lo, hi, hm, h12⟩ := mem_attribAt.mp h
    exact mem_attribAt.mpr ⟨lo, hi, mem_nestedInstrs.mpr ⟨k, v, hv, hm⟩, h12⟩

/-- **Per-atom phase, rule before the repair of F23** (`d[..][PHASE] += cs.phase`): the phase
sample of an entry is the sum of the painted phases of *every* channel written into the entry
at that time.  So over a pulse it is that pulse's phase exactly when its channel is the only
writer (with `phase_on_pulse` for the channel's own array); with a second writer of the same
basis and addressing class it was not — finding F-C06-1 (F23 of C05), now repaired. -/
theorem per_atom_phase_sum (instrs : List NInstr) (b : Basis) (q : Option Nat) (t : Int) :
    entryPhaseSum ((attribAt instrs b q t).map (·.1)) = (attribAt instrs b q t).map (·.1) ∧
    (∀ k w, attribAt instrs b q t = [(k, w)] → entryPhaseSum ((attribAt instrs b q t).map (·.1)) = [k]) := by
  refine ⟨rfl, fun k w h => ?_⟩
  rw [h]; rfl

/-- **Per-atom phase, current rule** (`_add_channel_samples`): whenever exactly one of the
channels written into an entry has a non-zero amplitude at that time, the entry's phase is
the painted phase of that channel alone — whatever the other channels' phases are; with
`phase_on_pulse` this is the phase of the pulse that channel plays at that time.  (When two
channels drive one entry at the same time the phases are still added; the format cannot
carry two phases and the property is not judged there.) -/
theorem per_atom_phase_single_drive (instrs : List NInstr) (on : Nat → Bool) (b : Basis) (q : Option Nat)
    (t : Int) (pre post : List Nat) (k0 : Nat)
    (hw : (attribAt instrs b q t).map (·.1) = pre ++ k0 :: post)
    (hk0 : on k0 = true) (hpre : ∀ k ∈ pre, on k = false) (hpost : ∀ k ∈ post, on k = false) :
    nestedPhaseAt instrs on b q t = [k0] := by
  unfold nestedPhaseAt
  rw [hw, entryPhase_single on pre post k0 hk0 hpre hpost]

/-! ### Non-vacuity: a reachable sequence meets the hypotheses -/

-- helpers of the examples are `def`s: only property theorems are `theorem`s here
set_option linter.defProp false

def exGlobal : ChanCfg := { clock := 4, minDur := 16, rise := 120, pjt := 240, maxDur := some 1000 }
def exLocal : ChanCfg :=
  { clock := 4, minDur := 16, isLocal := true, basis := .digital, maxTargets := some 2 }
def exDev : Device := { chans := [exGlobal, exLocal], dmms := [], reusable := false, maxSeqDur := none }

def exDev_ok : DevOk exDev := by
  refine ⟨?_, ?_⟩ <;> intro c hc <;> simp [exDev, exGlobal, exLocal] at hc
  rcases hc with hc | hc <;> subst hc <;> decide

/-- A pulse, the phase-jump delay inserted for the next one, a second pulse of another phase
on the global channel; two pulses on different targets on the local channel. -/
def exOps : List Op :=
  [ .declare (.user 0) 0 none,
    .add { dur := 101, fallStd := 200, ref := 1, sum := {} } (.user 0) (some .minDelay),
    .add { dur := 52, phase := 1, ref := 2, sum := {} } (.user 0) (some .minDelay),
    .declare (.user 1) 1 (some [0, 2]),
    .add { dur := 20, ref := 3, sum := {} } (.user 1) (some .noDelay),
    .target [1] (.user 1),
    .add { dur := 24, phase := 1 / 2, ref := 4, sum := {} } (.user 1) (some .noDelay) ]

def exState : SeqState := run (SeqState.init exDev 3) exOps
def exG : ChanState := exState.chans[0]!
def exL : ChanState := exState.chans[1]!

/-- The two channels of the example sequence, evaluated once; the examples below rewrite with
these and evaluate the sampler on the literal. -/
def exG_eq : exG = { name := .user 0, chId := 0, cfg := exGlobal, slots :=
    [⟨.target, -1, 0, [0, 1, 2]⟩,
     ⟨.pulse { dur := 104, phase := 0, fallStd := 200, ref := 1, proto := .minDelay }, 0, 104, [0, 1, 2]⟩,
     ⟨.delay, 104, 544, [0, 1, 2]⟩,
     ⟨.pulse { dur := 52, phase := 1, ref := 2, proto := .minDelay }, 544, 596, [0, 1, 2]⟩] } := by
  decide +kernel
def exL_eq : exL = { name := .user 1, chId := 1, cfg := exLocal, slots :=
    [⟨.target, -1, 0, [0, 2]⟩,
     ⟨.pulse { dur := 20, phase := 0, ref := 3 }, 0, 20, [0, 2]⟩,
     ⟨.target, 20, 20, [1]⟩,
     ⟨.pulse { dur := 24, phase := 1 / 2, ref := 4 }, 20, 44, [1]⟩] } := by
  decide +kernel

example : exG.slots.map (fun s => (s.ti, s.tf)) = [(-1, 0), (0, 104), (104, 544), (544, 596)] := by
  rw [exG_eq]; decide +kernel
example : exL.slots.map (fun s => (s.ti, s.tf, s.targets)) =
    [(-1, 0, [0, 2]), (0, 20, [0, 2]), (20, 20, [1]), (20, 44, [1])] := by rw [exL_eq]; decide +kernel

/-- The hypothesis `ChanInv` of the theorems above holds for the channels of this reachable
sequence (by `C02.timeline_inv`). -/
def exG_inv : ChanInv none exG :=
  C02.timeline_inv exDev 3 exDev_ok exState (C02.Reach.of_run exDev 3 exOps) exG (by decide +kernel)
def exL_inv : ChanInv none exL :=
  C02.timeline_inv exDev 3 exDev_ok exState (C02.Reach.of_run exDev 3 exOps) exL (by decide +kernel)

/-- Instruction 3 of the global channel is a pulse over [544, 596) that is not a detuned delay. -/
def exG_slot3 : ∃ s p, IsPulseSlot exG 3 s p ∧ s.ti = 544 ∧ s.tf = 596 ∧ p.dd = false := by
  refine ⟨exG.slots[3]!, (exG.slots[3]!).pulse?.get!, ?_⟩
  decide +kernel

/-- amp_unique / det_unique / phase_on_pulse: hypotheses met, and the conclusion computed directly. -/
example : ampAt exG 550 = [(3, 6)] := by
  obtain ⟨s, p, hs, e1, e2, _⟩ := exG_slot3
  have := amp_unique exG_inv hs (t := 550) (by omega) (by omega)
  rw [e1] at this; exact this
example : ampAt exG 550 = [(3, 6)] ∧ detAt exG 103 = [(1, 103)] ∧ phaseAt exG true 550 = some 3 := by
  rw [exG_eq]; decide +kernel
/-- amp_zero_outside: in the inserted delay nothing plays, and the phase switches from the first
to the second pulse at `max (544 − 240) 104 = 304`. -/
example : ampAt exG 104 = [] ∧ detAt exG 543 = [] ∧ phaseAt exG true 303 = some 1 ∧
    phaseAt exG true 304 = some 3 := by rw [exG_eq]; decide +kernel
example : ∀ i s p, IsPulseSlot exG i s p → ¬ (s.ti ≤ 200 ∧ (200 : Int) < s.tf) := by
  intro i s p hs
  have hm := hs.mem
  have : ∀ x ∈ exG.pulseSlots, ¬ (x.s.ti ≤ 200 ∧ (200 : Int) < x.s.tf) := by rw [exG_eq]; decide +kernel
  exact this _ hm
/-- eom_idle_pulse: with the fall times in the oracle table the idle pulse is made. -/
example : (mkDetunedDelay { exG with ddOracle := [((-5, 48), (10, 4))] } 48 (-5) 0).toOption.map
    (fun p => (p.const, p.amp, p.det, p.dd)) = some (true, 0, -5, true) := by decide +kernel
/-- phase_zero_without_pulse on a freshly declared channel. -/
example : phaseAt ((run (SeqState.init exDev 3) [.declare (.user 0) 0 none]).chans[0]!) true 0 = none := by
  decide +kernel
/-- array_length -/
example : (getSamples exG true).amp.length = 596 ∧ exG.getDuration false = 596 := by rw [exG_eq]; decide +kernel
/-- extend_pads: the local channel (44 ns) extended to 50 ns. -/
example :
    let e := extendDuration (getSamples exL true) 50
    e.map (·.amp.length) = some 50 ∧ e.bind (·.amp[43]?) = some [(3, 23)] ∧ e.bind (·.amp[44]?) = some [] ∧
    e.bind (·.det[49]?) = some ⟨[], 0⟩ ∧ e.bind (·.phase[43]?) = some (some 3) ∧
    e.bind (·.phase[49]?) = some (some 3) := by rw [exL_eq]; decide +kernel
example : extendDuration (getSamples exL true) 43 = none := by rw [exL_eq]; decide +kernel
/-- … and in EOM mode the padding is the off-detuning. -/
example : ((extendDuration { (getSamples exL true) with openDetOff := some (-5) } 45).bind (·.det[44]?)) =
    some ⟨[], -5⟩ := by rw [exL_eq]; decide +kernel
/-- per_qubit_attribution: at t = 30 the local channel plays instruction 3 on atom 1 only. -/
example : (exL.view []).globalBranch false = false ∧
    attribAt (chanInstrs false {} 1 (exL.view [])) .digital (some 1) 30 = [(1, 1)] ∧
    attribAt (chanInstrs false {} 1 (exL.view [])) .digital (some 0) 30 = [] ∧
    attribAt (chanInstrs false {} 1 (exL.view [])) .digital (some 0) 10 = [(1, 1)] ∧
    ampAt exL 30 = [(3, 10)] := by rw [exL_eq]; decide +kernel
/-- eom_tail_attribution: the local channel's last slot is [20, 44) on atom 1; left in EOM mode it
keeps feeding atom 1 (and only atom 1) afterwards, otherwise it stops at 44. -/
example :
    let v := exL.view []
    let vo : ChanView := { v with openEom := true }
    v.slots.map (fun s => (s.ti, s.tf, s.targets)) = [(0, 20, [0, 2]), (20, 44, [1])] ∧
    attribAt (chanInstrs false {} 1 v) .digital (some 1) 500 = [] ∧
    attribAt (chanInstrs false {} 1 vo) .digital (some 1) 500 = [(1, 1)] ∧
    attribAt (chanInstrs false {} 1 vo) .digital (some 0) 500 = [] ∧
    attribAt (chanInstrs false {} 1 vo) .digital (some 0) 10 = [(1, 1)] := by rw [exL_eq]; decide +kernel
/-- … and a channel without pulses that is left in EOM mode feeds its last targets throughout. -/
example :
    let vo : ChanView := { (exL.view []) with slots := [], openEom := true, lastTargets := [1] }
    attribAt (chanInstrs false {} 1 vo) .digital (some 1) 7 = [(1, 1)] ∧
    attribAt (chanInstrs false {} 1 vo) .digital (some 0) 7 = [] := by rw [exL_eq]; decide +kernel
/-- global_attribution: the global channel goes to `Global` (no mask), and under `all_local` to each atom. -/
example : (exG.view []).globalBranch false = true ∧
    attribAt (nestedInstrs false {} [exG.view [], exL.view []]) .groundRydberg none 550 = [(0, 1)] ∧
    attribAt (nestedInstrs true {} [exG.view [], exL.view []]) .groundRydberg (some 2) 550 = [(0, 1)] ∧
    attribAt (nestedInstrs true {} [exG.view [], exL.view []]) .groundRydberg none 550 = [] := by
  rw [exG_eq, exL_eq]; decide +kernel
/-- XY mask window: a global XY channel with atom 1 masked until 104. -/
example :
    let v : ChanView := { (exG.view []) with basis := .xy }
    let m : SlmMask := { targets := [1], end_ := 104 }
    attribAt (chanInstrs false m 0 v) .xy none 50 = [] ∧
    attribAt (chanInstrs false m 0 v) .xy (some 0) 50 = [(0, 1)] ∧
    attribAt (chanInstrs false m 0 v) .xy (some 1) 50 = [] ∧
    attribAt (chanInstrs false m 0 v) .xy none 104 = [(0, 1)] ∧
    attribAt (chanInstrs true m 0 v) .xy (some 1) 50 = [] ∧
    attribAt (chanInstrs true m 0 v) .xy (some 1) 550 = [(0, 1)] := by rw [exG_eq]; decide +kernel
/-- … and a declared global XY channel without any pulse adds nothing before the mask end
(`if not cs.slots: continue`, repair of F-C06-2) and goes to `Global` afterwards. -/
example :
    let v : ChanView := { (exG.view []) with basis := .xy, slots := [] }
    let m : SlmMask := { targets := [1], end_ := 104 }
    attribAt (chanInstrs false m 0 v) .xy (some 0) 50 = [] ∧
    attribAt (chanInstrs false m 0 v) .xy none 50 = [] ∧
    attribAt (chanInstrs false m 0 v) .xy none 104 = [(0, 1)] := by rw [exG_eq]; decide +kernel
/-- per_atom_phase_sum / per_atom_phase_single_drive: both channels are written into the `Local`
entry of atom 1 under `all_local`; the committed rule sums both phases, the repaired rule keeps
the phase of the channel that drives (at t = 30 the local one, position 1). -/
example :
    let ins := nestedInstrs true {} [{ (exG.view []) with basis := .digital }, exL.view []]
    (attribAt ins .digital (some 1) 30).map (·.1) = [0, 1] ∧
    nestedPhaseAt ins (fun k => k == 1) .digital (some 1) 30 = [1] ∧
    nestedPhaseAt ins (fun k => k == 0) .digital (some 1) 30 = [0] ∧
    nestedPhaseAt ins (fun _ => true) .digital (some 1) 30 = [0, 1] := by rw [exG_eq, exL_eq]; decide +kernel
/-- DMM weights: the detuning of a DMM is weighted per atom. -/
example :
    let v : ChanView := { (exG.view [1/4, 0, 3/4]) with isDmm := true }
    attribAt (chanInstrs false {} 2 v) .groundRydberg (some 2) 50 = [(2, 3/4)] ∧
    attribAt (chanInstrs false {} 2 v) .groundRydberg (some 1) 50 = [(2, 0)] := by rw [exG_eq]; decide +kernel

end C06
end Pulser
