/-
  C13 — Which building operations are accepted follows the documented typestate.

  The rules are stated outright on the model's `stepRaw` (PulserModel/Sequence.lean),
  for every state (the guards only read the mode of the sequence, so no reachability
  hypothesis is needed).  The parametrized clause is stated on the template model
  (`tstep`, PulserModel/Param.lean) at the end; `config_slm_mask` is covered by the
  harness monitor only (and by the decorator table: `C13Table.measured_blocks_timeline_table`,
  Properties/C13Table.lean).
-/
import PulserModel.Sequence
import PulserModel.Param
namespace Pulser
namespace C13

/-- The timeline-changing calls (everything except phase shifts and queries). -/
def changesTimeline : Op → Bool
  | .declare .. | .configDetMap .. | .target .. | .add .. | .addDmm .. | .addEom .. | .delay ..
  | .align .. | .enableEom .. | .modifyEom .. | .disableEom .. | .measure .. => true
  | _ => false

/-- **After measurement every timeline-changing call is refused**, and leaves the
sequence untouched. -/
theorem measured_blocks_timeline (s : SeqState) (op : Op) (hm : s.measured.isSome = true)
    (ht : changesTimeline op = true) :
    (stepRaw s op).err = some .measured ∧ (stepRaw s op).st = s := by
  have hne : s.measured ≠ none := by
    intro h; rw [h] at hm; simp at hm
  cases op with
  | phaseShift | getDuration | estimate | phaseRef => cases ht
  | _ =>
    simp [stepRaw, hm, hne, fail, store, markNonEmpty, targetCore, delayCore, delayChecked, Raw.orRollback]

/-- **A channel name can be declared once on any device.** -/
theorem name_once (s : SeqState) (n chId : Nat) (init : Option (List Nat))
    (hm : s.measured.isSome = false) (h : (s.getChan (.user n)).isSome = true) :
    (stepRaw s (.declare (.user n) chId init)).err = some .nameInUse := by
  simp [stepRaw, hm, h, fail]

/-- **On a device without reusable channels each channel can be declared once**
(once a mode is set, i.e. as soon as anything has been declared). -/
theorem declare_once (s : SeqState) (n chId : Nat) (init : Option (List Nat)) (cfg : ChanCfg)
    (hm : s.measured.isSome = false) (hn : (s.getChan (.user n)).isSome = false)
    (hc : s.dev.chans[chId]? = some cfg) (hr : s.dev.reusable = false)
    (hmode : s.inXY = true ∨ s.inIsing = true)
    (hocc : s.occupied false chId = true) :
    ∃ e, (stepRaw s (.declare (.user n) chId init)).err = some e ∧ e.isTypestate = true := by
  have hav : s.available false chId cfg = false := by
    unfold SeqState.available
    rcases hmode with h | h <;> simp [h, hocc, hr]
  simp only [stepRaw, hm, hn, hc, hav]
  simp only [Bool.false_eq_true, if_false, Bool.not_false, if_true]
  -- whichever of the three refusals it is, it is a typestate error
  generalize (s.inXY && cfg.basis != .xy) = a
  generalize (!s.inXY && cfg.basis == .xy) = b
  cases a <;> cases b <;> exact ⟨_, rfl, rfl⟩

/-- ... and likewise each DMM can be configured once. -/
theorem dmm_once (s : SeqState) (dmmId : Nat) (w1 w2 : Rat) (cfg : ChanCfg)
    (hm : s.measured.isSome = false) (hc : s.dev.dmms[dmmId]? = some cfg)
    (hr : s.dev.reusable = false) (hx : s.inXY = false) (hi : s.inIsing = true)
    (hocc : s.occupied true dmmId = true) :
    (stepRaw s (.configDetMap dmmId w1 w2)).err = some .notAvailable := by
  have hav : s.available true dmmId cfg = false := by
    unfold SeqState.available; simp [hx, hi, hocc, hr]
  simp [stepRaw, hm, hc, hx, hav, fail]

/-- **Microwave (XY) channels never coexist with other channels**: in XY mode a non-XY
channel is refused, outside it (Ising mode) an XY channel is refused. -/
theorem xy_exclusive (s : SeqState) (n chId : Nat) (init : Option (List Nat)) (cfg : ChanCfg)
    (hm : s.measured.isSome = false) (hn : (s.getChan (.user n)).isSome = false)
    (hc : s.dev.chans[chId]? = some cfg)
    (h : (s.inXY = true ∧ cfg.basis ≠ .xy) ∨ (s.inXY = false ∧ s.inIsing = true ∧ cfg.basis = .xy)) :
    (stepRaw s (.declare (.user n) chId init)).err = some .xyConflict := by
  have hav : s.available false chId cfg = false := by
    unfold SeqState.available
    rcases h with ⟨h1, h2⟩ | ⟨h1, h2, h3⟩
    · simp [h1, h2]
    · simp [h1, h2, h3]
  simp only [stepRaw, hm, hn, hc, hav]
  rcases h with ⟨h1, h2⟩ | ⟨h1, h2, h3⟩
  · simp [h1, h2, fail]
  · simp [h1, h3, fail]

/-- ... nor with DMMs. -/
theorem xy_excludes_dmm (s : SeqState) (dmmId : Nat) (w1 w2 : Rat) (cfg : ChanCfg)
    (hm : s.measured.isSome = false) (hc : s.dev.dmms[dmmId]? = some cfg) (hx : s.inXY = true) :
    (stepRaw s (.configDetMap dmmId w1 w2)).err = some .xyConflict := by
  simp [stepRaw, hm, hc, hx, fail]

/-- **While a channel is in EOM mode ordinary pulses and retargets are refused on it.** -/
theorem eom_only_eom_ops (s : SeqState) (n : ChName) (c : ChanState) (hm : s.measured.isSome = false)
    (hc : s.getChan n = some c) (he : c.inEomMode = true) :
    (∀ p proto, (stepRaw s (.add p n proto)).err = some .inEom) ∧
    (∀ qs, (stepRaw s (.target qs n)).err = some .inEom) ∧
    (∀ e, (stepRaw s (.enableEom n e)).err = some .alreadyInEom) := by
  refine ⟨fun p proto => ?_, fun qs => ?_, fun e => ?_⟩
  · simp [stepRaw, hm, SeqState.validateChannel, hc, he, fail, store, markNonEmpty]
  · simp [stepRaw, targetCore, hm, SeqState.validateChannel, hc, he, fail, store, Raw.orRollback]
  · simp [stepRaw, hm, SeqState.validateChannel, hc, he, fail]

/-- **EOM pulses and EOM controls are refused outside EOM mode.** -/
theorem eom_pulse_needs_eom (s : SeqState) (n : ChName) (c : ChanState)
    (hm : s.measured.isSome = false) (hc : s.getChan n = some c) (he : c.inEomMode = false) :
    (∀ d ph po pr co fs fe r, (stepRaw s (.addEom n d ph po pr co fs fe r)).err = some .notInEom) ∧
    (∀ e, (stepRaw s (.modifyEom n e)).err = some .notInEom) ∧
    (∀ co, (stepRaw s (.disableEom n co)).err = some .notInEom) := by
  have hb : ∀ b, c.eom.getLast? = some b → b.tf.isSome = true := by
    intro b hb
    unfold ChanState.inEomMode at he
    rw [hb] at he
    cases h : b.tf <;> simp_all
  refine ⟨fun d ph po pr co fs fe r => ?_, fun e => ?_, fun co => ?_⟩
  · cases hl : c.eom.getLast? with
    | none => simp [stepRaw, hm, SeqState.validateChannel, hc, hl, fail, store, markNonEmpty]
    | some b => simp [stepRaw, hm, SeqState.validateChannel, hc, hl, hb b hl, fail, store, markNonEmpty]
  · simp [stepRaw, hm, SeqState.validateChannel, hc, he, fail]
  · simp [stepRaw, hm, SeqState.validateChannel, hc, he, fail, store, Raw.orRollback]

/-- **A local channel needs a target before its first pulse**: a channel without any
instruction refuses `add` with "no target".  (Delays and EOM pulses read the same missing last
instruction; they are not part of this statement.) -/
theorem local_needs_target (s : SeqState) (n : ChName) (c : ChanState) (p : PulseIn)
    (proto : Protocol) (hm : s.measured.isSome = false) (hc : s.getChan n = some c)
    (hd : c.cfg.isDmm = false) (he : c.inEomMode = false) (hs : c.slots = []) :
    (stepRaw s (.add p n (some proto))).err = some .noTarget := by
  have hl : c.last = .error .noTarget := by unfold ChanState.last; rw [hs]; rfl
  simp [stepRaw, hm, SeqState.validateChannel, hc, he, hd, addCore, hl, fail, store, markNonEmpty]

/-- Operations on a name that was never declared are refused. -/
theorem undeclared_refused (s : SeqState) (n : ChName) (hm : s.measured.isSome = false)
    (hc : s.getChan n = none) :
    (∀ p proto, (stepRaw s (.add p n proto)).err = some .notDeclared) ∧
    (∀ d r, (stepRaw s (.delay d n r)).err = some .notDeclared) ∧
    (∀ qs, (stepRaw s (.target qs n)).err = some .notDeclared) := by
  refine ⟨fun p proto => ?_, fun d r => ?_, fun qs => ?_⟩
  · simp [stepRaw, hm, SeqState.validateChannel, hc, fail, store, markNonEmpty]
  · simp [stepRaw, delayCore, delayChecked, hm, SeqState.validateChannel, hc, fail, store, Raw.orRollback]
  · simp [stepRaw, targetCore, hm, SeqState.validateChannel, hc, fail, store, Raw.orRollback]

/-! ### Non-vacuity -/

def exDev : Device :=
  { chans := [{ clock := 4, minDur := 16, isLocal := true, basis := .digital },
              { clock := 4, minDur := 16, basis := .xy }],
    dmms := [], reusable := false, maxSeqDur := none }

def s1 : SeqState := run (SeqState.init exDev 2) [.declare (.user 0) 0 none]

example : s1.measured.isSome = false ∧ (s1.getChan (.user 0)).isSome = true ∧ s1.inIsing = true ∧
    s1.occupied false 0 = true := by decide +kernel

example : (stepRaw s1 (.add { dur := 100 } (.user 0) (some .minDelay))).err = some .noTarget := by
  decide +kernel

example : (stepRaw s1 (.declare (.user 1) 1 none)).err = some .xyConflict := by decide +kernel

example : (stepRaw (run s1 [.measure .digital]) (.delay 100 (.user 0) false)).err = some .measured := by
  decide +kernel

/-! ### Parametrized mode (on the template model of PulserModel/Param.lean) -/

open Param in
/-- **An ACCEPTED call that uses a (declared) variable makes the sequence parametrized; a refused
one changes nothing** — neither a call refused by a store-time check (the flag is put back, repair
of F41) nor a call with an unknown or foreign variable (repair of F3) alters the template, its
mode included. -/
theorem variable_use_parametrizes (t : Tmpl) (p : POp) (h : p.isParam = true) :
    ((tstep t p).2 = none → (tstep t p).1.param = true) ∧
    (∀ e, (tstep t p).2 = some e → (tstep t p).1 = t) ∧
    (varsDeclared t p = false → tstep t p = (t, some .unknownVariable)) := by
  unfold tstep
  by_cases hv : varsDeclared t p = true
  · simp only [h, hv, Bool.not_true, Bool.and_false, Bool.false_eq_true, if_false, if_true]
    refine ⟨?_, ?_, fun hf => by simp at hf⟩
    · split
      · intro hn; simp at hn
      · split <;> intro _ <;> rfl
    · intro e
      split
      · intro _; rfl
      · split <;> intro hn <;> simp at hn
  · have hv' : varsDeclared t p = false := by simpa using hv
    simp [h, hv']

open Param in
/-- **Once parametrized, always parametrized** (until `build`, which returns a new sequence),
**and the concrete timeline no longer changes**: every further call is checked and stored, never
executed. -/
theorem parametrized_is_sticky (t : Tmpl) (p : POp) (h : t.param = true) :
    (tstep t p).1.param = true ∧ (tstep t p).1.pre = t.pre := by
  unfold tstep
  by_cases hu : (p.isParam && !varsDeclared t p) = true
  · rw [if_pos hu]; exact ⟨h, rfl⟩
  rw [if_neg hu]
  have h1 : (if p.isParam = true then { t with param := true } else t : Tmpl) = t := by
    have : { t with param := true } = t := by cases t; cases h; rfl
    rw [this, ite_self]
  simp only [h1, h, Bool.not_true, Bool.false_eq_true, if_false]
  cases storeCheck t p with
  | some e => exact ⟨h, rfl⟩
  | none => simp only; split <;> exact ⟨rfl, rfl⟩

open Param in
/-- A call without variables on a sequence that is not parametrized is executed immediately
(exactly `stepRaw`), and the sequence stays concrete. -/
theorem concrete_call_executes (t : Tmpl) (p : POp) (op : Op) (h : t.param = false)
    (hp : p.isParam = false) (hc : concretize p = some op) :
    (tstep t p).1.pre = (stepRaw t.pre op).st ∧ (tstep t p).1.param = false ∧
    (tstep t p).1.stored = t.stored := by
  unfold tstep
  simp [hp, h, hc]

end C13
end Pulser
