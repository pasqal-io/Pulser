/-
  C07 — Phase references (virtual-Z) are additive and applied to every pulse.

  Phases are exact rationals; `fmtPhase` reduces modulo the rational value of the
  float `2*np.pi`, as the code does (Python's `%` on floats is an exact `fmod`).
  Hence "equal modulo 2π" reads `∃ k : Int, a = b - k * twoPi`.

  The Ramsey clause (a shift of φ between two π/2 pulses gives cos²(φ/2)) is a statement
  about the emulator's ODE integration and is validated numerically by the harness only.
-/
import Proofs.RefsInv
import Proofs.CallSpec
import Properties.C02
import Mathlib.Tactic.Ring
namespace Pulser
namespace C07

/-- References and pulse phases always lie in `[0, 2π)`. -/
theorem phase_range (x : Rat) : 0 ≤ fmtPhase x ∧ fmtPhase x < twoPi := fmtPhase_range x

/-- **Additivity, one step.**  A phase shift `phi` on a qubit makes its current reference
`(old + phi) mod 2π`, recorded at the time the qubit was last used, which becomes the
time of its latest phase shift; the tracker stays well formed. -/
theorem shift_adds (q : QRef) (phi : Rat) (h : TrOk q) :
    (∃ k : Int, (q.incrementPhase phi).lastPhase = q.lastPhase + phi - k * twoPi) ∧
    (q.incrementPhase phi).lastTime = q.lastUsed ∧ TrOk (q.incrementPhase phi) := by
  obtain ⟨h1, h2, _, h4⟩ := incrementPhase_spec q phi h
  refine ⟨?_, h2, h4⟩
  rw [h1]; exact fmtPhase_eq_mod _

/-- **Additivity over any list of shifts**: after applying the shifts `φ₁ … φₙ` (explicit
shifts, post-phase-shifts, drift corrections — whatever the calls pass to
`increment_phase`), the reference equals the initial one plus their sum, modulo 2π. -/
theorem shifts_add_up (q : QRef) (h : TrOk q) (phis : List Rat) :
    TrOk (phis.foldl QRef.incrementPhase q) ∧
    ∃ k : Int, (phis.foldl QRef.incrementPhase q).lastPhase = q.lastPhase + phis.sum - k * twoPi := by
  induction phis generalizing q with
  | nil => exact ⟨h, 0, by simp⟩
  | cons phi rest ih =>
    obtain ⟨⟨k1, e1⟩, _, ok1⟩ := shift_adds q phi h
    obtain ⟨ok2, k2, e2⟩ := ih (q.incrementPhase phi) ok1
    refine ⟨ok2, k1 + k2, ?_⟩
    simp only [List.foldl_cons, List.sum_cons]
    rw [e2, e1]; push_cast; ring

/-- Using a qubit (`update_last_used`) never changes its reference. -/
theorem use_keeps_ref (q : QRef) (t : Int) (h : TrOk q) :
    (q.updateLastUsed t).lastPhase = q.lastPhase ∧ TrOk (q.updateLastUsed t) :=
  ⟨(updateLastUsed_spec q t h).1, (updateLastUsed_spec q t h).2.2⟩

/-- The time of the latest phase shift is the greatest recorded time. -/
theorem last_time_is_latest (q : QRef) (h : TrOk q) : ∀ e ∈ q.tr, e.1 ≤ q.lastTime := by
  obtain ⟨h1, h2, _⟩ := h
  unfold QRef.lastTime
  intro e he
  -- the times increase strictly, so the last entry is the latest
  cases hg : q.tr.getLast? with
  | none => rw [List.getLast?_eq_none_iff.mp hg] at he; cases he
  | some x =>
    obtain ⟨ys, hys⟩ := List.getLast?_eq_some_iff.mp hg
    rw [hys] at h2 he
    rcases List.mem_append.mp he with h | h
    · exact Int.le_of_lt ((List.pairwise_append.mp h2).2.2 e h x (List.mem_singleton_self x))
    · rw [List.mem_singleton.mp h]; exact Int.le_refl _

/-- **Every pulse is scheduled with its programmed phase plus the reference**: the pulse
record produced by `_validate_and_adjust_pulse` carries `(programmed + reference) mod 2π`. -/
theorem pulse_phase (c : ChanState) (p : PulseIn) (ref : Rat) (pr : PulseRec)
    (h : validateAndAdjust c p (some ref) = .ok pr) :
    pr.phase = fmtPhase (p.phase + ref) ∧ ∃ k : Int, pr.phase = p.phase + ref - k * twoPi := by
  obtain ⟨_, _, _, _, rfl⟩ := validateAndAdjust_iff.mp h
  exact ⟨rfl, fmtPhase_eq_mod _⟩

/-- ... and, without drift correction, that is the phase of the slot appended to the timeline. -/
theorem scheduled_phase {ms : Option Nat} {c : ChanState} {others : List ChanState}
    {p : PulseRec} {barriers : List Int} {proto : Protocol} {blk : Bool} {slot : Slot}
    (h : makeNextPulseSlot ms c others p barriers proto none blk = .ok slot) :
    ∃ p', slot.kind = .pulse p' ∧ p'.phase = p.phase ∧ p'.post = p.post := by
  cases hl : c.last with
  | error e => simp [makeNextPulseSlot, hl] at h
  | ok last =>
    obtain ⟨_, _, _, _, hph, rfl⟩ := makeNextPulseSlot_shape hl h
    exact ⟨_, rfl, hph rfl, rfl⟩

/-- **Barrier.**  No pulse is ever scheduled to start before the time of the latest phase
shift of any of its targets (the `phase_barrier_ts` handed to the scheduler), whatever
the protocol. -/
theorem barrier {ms : Option Nat} {c : ChanState} {others : List ChanState}
    {p : PulseRec} {barriers : List Int} {proto : Protocol} {drift : Option Drift} {blk : Bool}
    {slot last : Slot} (hc : 0 < c.cfg.clock) (hl : c.last = .ok last)
    (h : makeNextPulseSlot ms c others p barriers proto drift blk = .ok slot) :
    ∀ b ∈ barriers, b ≤ slot.ti := by
  -- b ≤ max of the barriers ≤ current_max_t ≤ start of the slot
  intro b hb
  exact Int.le_trans (Int.le_trans (le_maxList_of_mem hb last.tf) (curMaxOf_ge others last barriers proto).2)
    (makeNextPulseSlot_ge hc hl h).1

/-- **At the level of the API call**: when `seq.add(pulse, channel, protocol)` succeeds on a
sequence satisfying the timeline invariant (every reachable one), the pulse instruction appended
to the channel carries the programmed phase plus the channel's phase reference — the common
reference of its target atoms in the channel's basis, as it was before the call — reduced to
`[0, 2π)`, keeps its post-phase-shift, and does not start before the time of the latest phase
shift of any of its targets. -/
theorem add_phase_and_barrier (s : SeqState) (hi : SeqInv s) (p : PulseIn) (n : ChName)
    (proto : Protocol) (hok : (addCore s p n (some proto) none).err = none) :
    ∃ (c c' : ChanState) (last slot : Slot) (pr : PulseRec),
      s.getChan n = some c ∧ c.last = .ok last ∧
      (addCore s p n (some proto) none).st.getChan n = some c' ∧ c'.last = .ok slot ∧
      slot.kind = .pulse pr ∧ pr.post = p.post ∧
      pr.phase = fmtPhase (p.phase +
        (match (if c.cfg.isDmm = true then none else (s.lastPhases c.cfg.basis last.targets).head?) with
         | some r => r | none => 0)) ∧
      ∀ b ∈ s.lastTimes c.cfg.basis last.targets, b ≤ slot.ti := by
  obtain ⟨c, c', last, slot, pr0, ref, hgc, hl, href, hpr, hm, hget, hl'⟩ := addCore_ok_spec hok
  have hci := hi c (getChan_mem hgc).1
  obtain ⟨p', hk, hph, hpost⟩ := scheduled_phase (makeNext_blk_indep hm)
  have hbar := barrier hci.1 hl hm
  subst href
  obtain ⟨_, _, _, _, rfl⟩ := validateAndAdjust_iff.mp hpr
  exact ⟨c, c', last, slot, p', hgc, hl, hget, hl', hk, hpost, hph, hbar⟩

/-- **Bases are separate**: a phase shift in basis `b` leaves the references of every other
basis untouched. -/
theorem basis_separation (s : SeqState) (phi : Rat) (qs : List Nat) (b b' : Basis) (hb : b' ≠ b) :
    (s.phaseShift phi qs b).st.getRefs b' = s.getRefs b' := by
  rcases phaseShift_cases s phi qs b with h | h | ⟨_, h⟩ <;> rw [h]
  · rfl
  · rfl
  · -- `done` unfolded first: the unifier is slow to see `(done x).st` as `x`
    rw [done, getRefs_mapRefs, if_neg hb]

/-- **Every phase tracker of every reachable sequence is well formed** (times strictly
increasing, nothing recorded after the qubit's last use): by induction over arbitrary call
histories, failing calls included.  This is what makes `shift_adds` apply to every reference
of every reachable state. -/
theorem trackers_invariant (dev : Device) (nQ : Nat) (s : SeqState) (hr : C02.Reach dev nQ s) :
    RefsOk s := by
  obtain ⟨evs, rfl⟩ := hr
  exact runEv_refs _ evs (by intro p hp; simp [SeqState.init] at hp)

/-- **The phase references of the basis of every declared channel exist**, in every reachable state
(declaring a channel creates them, no call removes them): the references a pulse is added to are
always there. -/
theorem bases_addressed (dev : Device) (nQ : Nat) (s : SeqState) (hr : C02.Reach dev nQ s) :
    ∀ c ∈ s.chans, (s.getRefs c.cfg.basis).isSome = true := by
  obtain ⟨evs, rfl⟩ := hr
  intro c hc
  exact (Keys.hasB_iff _).mp
    (runEv_bases _ evs (SeqState.init_all dev nQ) c hc)

/-- **A phase shift at the level of the sequence.**  After `phase_shift(phi, targets, basis)`
returns normally, the current reference of every targeted qubit is its previous reference
plus `phi` (mod 2π), and the reference of every other qubit of that basis is unchanged. -/
theorem phase_shift_adds (s : SeqState) (phi : Rat) (qs : List Nat) (b : Basis) (l : List QRef)
    (hok : RefsOk s) (hne : qs ≠ []) (hl : s.getRefs b = some l)
    (hsucc : (s.phaseShift phi qs b).err = none) :
    ∃ l', (s.phaseShift phi qs b).st.getRefs b = some l' ∧ l'.length = l.length ∧
      ∀ q (hq : q < l.length) (hq' : q < l'.length),
        (qs.contains q = true → ∃ k : Int, l'[q].lastPhase = l[q].lastPhase + phi - k * twoPi) ∧
        (qs.contains q = false → l'[q] = l[q]) := by
  rcases phaseShift_cases s phi qs b with h | h | ⟨_, h⟩ <;> rw [h] at hsucc ⊢
  · cases hsucc
  · cases hsucc
  · have hqs : (if qs.isEmpty = true then s.allQubits else qs) = qs := by
      cases qs with
      | nil => exact absurd rfl hne
      | cons a l => rfl
    rw [hqs]
    show ∃ l', (s.mapRefs b qs fun x => x.incrementPhase phi).getRefs b = some l' ∧ _
    refine ⟨_, (by rw [getRefs_mapRefs, if_pos rfl, hl]; rfl), by simp, ?_⟩
    intro q hq hq'
    have hTr : TrOk l[q] := hok.of_getRefs hl _ (List.getElem_mem _)
    simp only [List.getElem_map, List.getElem_zipIdx, Nat.zero_add]
    constructor
    · intro hc
      rw [if_pos hc]
      exact (shift_adds l[q] phi hTr).1
    · intro hc
      rw [if_neg (by rw [hc]; simp)]

/-! ### Non-vacuity -/

example : TrOk ({} : QRef) := TrOk_default

/-- shifts 1/4, 1/2, 1/8 on a fresh reference add up to 7/8 (no wrap) -/
example : (([1/4, 1/2, 1/8] : List Rat).foldl QRef.incrementPhase {}).lastPhase = 7/8 := by
  decide +kernel

/-- a shift of 7 wraps: 7 − 2π(float) -/
example : (QRef.incrementPhase {} 7).lastPhase = 7 - twoPi := by decide +kernel

end C07
end Pulser
