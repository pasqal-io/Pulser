/-
  C10 — Phase-jump time and retarget intervals are honoured.

  Stated on the scheduler model (PulserModel/Schedule.lean).  In EOM mode the wait is at least
  twice the larger of the channel's and the EOM's rise times (after the repair of F17: the code
  used the channel's only, which is too short when the EOM is the slower modulator).
-/
import Proofs.ConflictInv
import Proofs.CallSpec
import Properties.C07
namespace Pulser
namespace C10

/-- **Phase-jump gap.**  Unless added with 'no-delay', a pulse whose phase differs from the
phase of the previous (non detuned-delay) pulse `lp` of the channel starts at least
`max(phase_jump_time, 2·max(rise_time, EOM rise_time)·[EOM mode]) + fall_time(lp)` after `lp` ended. -/
theorem phase_jump_gap {ms : Option Nat} {c : ChanState} {others : List ChanState}
    {p : PulseRec} {barriers : List Int} {proto : Protocol} {drift : Option Drift} {blk : Bool}
    {slot last ls : Slot} {lp : PulseRec}
    (hc : 0 < c.cfg.clock) (hl : c.last = .ok last)
    (h : makeNextPulseSlot ms c others p barriers proto drift blk = .ok slot)
    (hproto : proto ≠ .noDelay) (hlp : c.lastPulseSlot true = some (ls, lp))
    (hph : lp.phase ≠ fmtPhase (correctedPhase p drift (curMaxOf others last barriers proto))) :
    ls.tf + ((max c.cfg.pjt (if c.inEomMode then 2 * max c.cfg.rise c.modeRise else 0) : Nat) : Int)
      + (lp.fall c.inEomMode : Nat) ≤ slot.ti := by
  have hge := (makeNextPulseSlot_ge hc hl h).2
  unfold phaseJumpBuffer at hge
  rw [if_pos hproto, hlp] at hge
  simp only at hge
  rw [if_pos hph] at hge
  omega

/-- **Phase-jump gap at the level of the API call.**  When `seq.add(pulse, channel, protocol)`
succeeds with 'min-delay' or 'wait-for-all' and the pulse as scheduled has a phase different from
the channel's previous (non detuned-delay) pulse `lp`, the appended pulse starts at least
`max(phase_jump_time, 2·max(rise_time, EOM rise_time)·[EOM mode]) + fall_time(lp)` after `lp` ended. -/
theorem add_phase_jump_gap (s : SeqState) (hi : SeqInv s) (p : PulseIn) (n : ChName)
    (proto : Protocol) (hproto : proto ≠ .noDelay)
    (hok : (addCore s p n (some proto) none).err = none) :
    ∃ (c c' : ChanState) (slot : Slot) (pr : PulseRec),
      s.getChan n = some c ∧ (addCore s p n (some proto) none).st.getChan n = some c' ∧
      c'.last = .ok slot ∧ slot.kind = .pulse pr ∧
      ∀ ls lp, c.lastPulseSlot true = some (ls, lp) → lp.phase ≠ pr.phase →
        ls.tf + ((max c.cfg.pjt (if c.inEomMode then 2 * max c.cfg.rise c.modeRise else 0) : Nat) : Int)
          + (lp.fall c.inEomMode : Nat) ≤ slot.ti := by
  obtain ⟨c, c', last, slot, pr0, ref, hgc, hl, _, hpr, hm, hget, hl'⟩ := addCore_ok_spec hok
  have hci := hi c (getChan_mem hgc).1
  obtain ⟨p', hk, hph, _⟩ := C07.scheduled_phase (makeNext_blk_indep hm)
  refine ⟨c, c', slot, p', hgc, hget, hl', hk, ?_⟩
  intro ls lp hlp hne
  apply phase_jump_gap hci.1 hl hm hproto hlp
  -- the phase compared by the scheduler is the (already reduced) phase of the pulse
  have hred : fmtPhase pr0.phase = pr0.phase := by
    obtain ⟨_, _, _, _, rfl⟩ := validateAndAdjust_iff.mp hpr
    exact fmtPhase_idem _
  show lp.phase ≠ fmtPhase (correctedPhase pr0 none _)
  unfold correctedPhase
  rw [hred, ← hph]; exact hne

/-- **Retargeting to the same atoms inserts nothing** (after the repair of F4). -/
theorem same_target_noop (ms : Option Nat) (c : ChanState) (qs : List Nat)
    (hne : c.slots.isEmpty = false) (hs : sameTargets c qs = true) :
    addTarget ms c qs = (⟨c, none⟩ : CRes) := by
  unfold addTarget
  rw [hne, hs]
  simp

theorem lastTarget_le {ms : Option Nat} {c : ChanState} {last : Slot} (hi : ChanInv ms c)
    (hl : c.last = .ok last) : c.lastTarget ≤ last.tf :=
  lastTarget_le_last hi hl

/-- What a real retarget appends, given the state `c` *after* the fall-time wait:
the new target instruction starts at the channel end, lasts at least `fixed_retarget_t`
(and at least the minimum duration when it is not empty), and ends at least
`min_retarget_interval` after the end of the previous target instruction. -/
theorem retarget_spec {ms : Option Nat} {c c' : ChanState} {qs : List Nat} {last : Slot}
    (hi : ChanInv ms c) (hl : c.last = .ok last)
    (h : (match (if retargetDelta c last.tf ≠ 0 then c.adjust (retargetDelta c last.tf).toNat else .ok 0) with
          | .error e => (.error e : Except Err ChanState)
          | .ok delta =>
            match checkDuration ms (last.tf + (delta : Int)) with
            | .error e => .error e
            | .ok _ => .ok { c with slots := c.slots ++ [(⟨.target, last.tf, last.tf + (delta : Int), qs⟩ : Slot)] })
          = .ok c') :
    ∃ delta : Nat, c'.slots = c.slots ++ [⟨.target, last.tf, last.tf + (delta : Int), qs⟩] ∧
      c.cfg.fixedRetarget ≤ delta ∧ (delta = 0 ∨ c.cfg.minDur ≤ delta) ∧
      (c.cfg.minRetarget : Int) ≤ last.tf + delta - c.lastTarget := by
  -- `h` is the tail of `add_target` on a channel whose last instruction is `last`
  have h' : addTargetTail ms c qs = .ok c' := by unfold addTargetTail; rw [hl]; exact h
  obtain ⟨last', delta, hl', rfl, h1, h2, h3⟩ := addTargetTail_spec hi h'
  cases hl.symm.trans hl'
  exact ⟨delta, rfl, h1, h2, h3⟩

/-- **A retarget begins only after the previous pulse has fully ramped down**: the fall wait
that precedes it brings the channel end to at least `get_duration(include_fall_time)`. -/
theorem retarget_after_fall {ms : Option Nat} {c c1 : ChanState} {l1 : Slot} (hc : 0 < c.cfg.clock)
    (h : waitForFall ms c = .ok c1) (hl1 : c1.last = .ok l1) (hne : c.slots ≠ []) :
    c.getDuration true ≤ l1.tf := by
  rcases waitForFall_cases h with ⟨rfl, hle⟩ | ⟨d, _, ha, h⟩
  · rw [getDuration_false_last hl1] at hle; exact hle
  · obtain ⟨d', h0, h2, _⟩ := addDelay_end hc h
    rw [getDuration_false_last hl1] at h0
    have h1 := Int.le_trans (Int.toNat_le.mp (adjustDuration_ok hc ha).2.1) (Int.ofNat_le.mpr h2)
    rw [h0]; exact Int.le_add_of_sub_left_le h1

/-- **The retarget rule holds in every reachable state**, whatever the history (failing calls
and oracle answers included): every target instruction `t` of a channel other than its initial
one — `pre` are the instructions before it — lasts at least `fixed_retarget_t`, and its end is
at least `min_retarget_interval` after the end of the target instruction before it. -/
theorem retarget_rule (dev : Device) (nQ : Nat) (hd : DevOk dev) (s : SeqState)
    (hr : C02.Reach dev nQ s) {c : ChanState} (hc : c ∈ s.chans) (pre post : List Slot) (t : Slot)
    (hs : c.slots = pre ++ t :: post) (ht : t.isTarget = true) (hpre : pre ≠ []) :
    (c.cfg.fixedRetarget : Int) ≤ t.tf - t.ti ∧
    (c.cfg.minRetarget : Int) ≤ t.tf - lastTargetOf pre.reverse := by
  obtain ⟨evs, rfl⟩ := hr
  have h0 : SeqInv (SeqState.init dev nQ) := SeqState.init_all dev nQ
  have hr0 : RTAll (SeqState.init dev nQ) := SeqState.init_all dev nQ
  have hrt := runEv_RT (s := SeqState.init dev nQ) hd h0 hr0 evs c hc
  unfold RTc at hrt
  rw [hs, List.reverse_append, List.reverse_cons, List.append_assoc] at hrt
  have := RT_suffix _ _ _ hrt
  exact this.1 (by simpa using hpre) ht

/-- **Every retarget begins only after the previous pulse has fully ramped down — in every
reachable state**: for a target instruction `t` and the most recent pulse `q` before it,
`q.tf + fall_time(q) ≤ t.ti` (standard-mode fall time: retargets happen outside EOM mode),
given hypothesis A1 on the oracle fall times (`FallsOk`: `fallStd ≤ 2·rise_time`). -/
theorem retarget_waits_for_fall (dev : Device) (nQ : Nat) (hd : DevOk dev) (s : SeqState)
    (hr : C02.Reach dev nQ s) (hf : FallsOk s) {c : ChanState} (hc : c ∈ s.chans)
    (pre post : List Slot) (t q : Slot) (pq : PulseRec)
    (hs : c.slots = pre ++ t :: post) (ht : t.isTarget = true)
    (hq : firstPulse pre.reverse = some (q, pq)) :
    q.tf + (pq.fallStd : Nat) ≤ t.ti := by
  obtain ⟨evs, rfl⟩ := hr
  have h0 : SeqInv (SeqState.init dev nQ) := SeqState.init_all dev nQ
  have hl0 : LPCAll (SeqState.init dev nQ) := SeqState.init_all dev nQ
  have hl := runEv_LPC (s := SeqState.init dev nQ) hd h0 hl0 evs hf c hc
  unfold LPCc at hl
  rw [hs, List.reverse_append, List.reverse_cons, List.append_assoc] at hl
  have := LPC_suffix _ _ hl
  exact this.1 ht q pq hq

/-! ### Non-vacuity -/

def cfgL : ChanCfg :=
  { clock := 4, minDur := 16, rise := 120, pjt := 240, isLocal := true, minRetarget := 220,
    fixedRetarget := 100, basis := .digital }
def exDev : Device := { chans := [cfgL], dmms := [], reusable := false, maxSeqDur := none }

def exS : SeqState :=
  run (SeqState.init exDev 3)
    [.declare (.user 0) 0 (some [0]),
     .add { dur := 100, fallStd := 200, ref := 1 } (.user 0) (some .minDelay),
     .target [0] (.user 0),        -- same atoms: nothing inserted
     .target [1] (.user 0),        -- waits for the fall (200), then retargets (>= 100, >= 220 after 0)
     .add { dur := 52, phase := 1, ref := 2 } (.user 0) (some .minDelay)]

example : (exS.chans.map (·.slots.map fun s => (s.ti, s.tf))) =
    [[(-1, 0), (0, 100), (100, 300), (300, 400), (400, 540), (540, 592)]] := by decide +kernel

/-- `retarget_rule` and `retarget_waits_for_fall` apply to the retarget at (300, 400): it lasts
100 ≥ fixed_retarget_t = 100, ends 400 ≥ 220 after the initial target's end (0), and starts at
300 = 100 + 200, the end of the pulse plus its fall time. -/
example : C02.Reach exDev 3 exS ∧
    (exS.chans.head?.map fun c => (c.slots.drop 3).head?.map fun t => (t.isTarget, t.ti, t.tf)) =
      some (some (true, 300, 400)) ∧
    (exS.chans.head?.map fun c => (firstPulse (c.slots.take 3).reverse).map fun x => (x.1.tf, x.2.fallStd)) =
      some (some (100, 200)) :=
  ⟨C02.Reach.of_run exDev 3 _, by decide +kernel, by decide +kernel⟩

end C10
end Pulser
