/-
  C05 — The emulated Hamiltonian equals the documented formula (PARTIAL).

  What is proved here, over an ideal scalar ring (any commutative ring `K` with an involutive
  conjugation; `Cx R`, pairs over a commutative ring `R`, is one): the index / sign / factor
  structure of `Hamiltonian._construct_hamiltonian` as modelled in
  `PulserModel/Hamiltonian.lean`:

  * `tensor_index`, `tensor_entries`   — register tensor order (Kronecker = digit-wise);
  * `H_code_eq_H_doc`                  — half-Hamiltonian + dagger = documented formula,
                                         every entry, any number of atoms / levels;
  * `H_code_hermitian`, `H_doc_hermitian`;
  * `vdw_entries`, `vdw_diagonal`, `xy_exchange_entries`, `xy_exchange_only_swaps`;
  * `eigenbasis_order`, `eigenbasis_nodup` — documented state ordering.

  What is NOT proved (validated numerically by harness/props/C05.py): that the float64 QuTiP
  matrix equals the formula (exp, 1/R^6, spline evaluation of the coefficients), that the model
  corresponds to the python code, and that the per-atom values are what the sequence programs.
  Helper lemmas: Proofs/Hamiltonian.lean.
-/
import Proofs.Hamiltonian

namespace Pulser
namespace Ham
namespace C05

variable {K : Type} [CommRing K]

/-! ### documented state ordering -/

/-- **State ordering.** `r,g` / `g,h` / `r,g,h` (qutrit) / `u,d`, whatever the order in which the
bases are listed; the default basis when nothing is addressed. -/
theorem eigenbasis_order :
    eigenbasisOf [.groundRydberg] false = [.r, .g]
    ∧ eigenbasisOf [.digital] false = [.g, .h]
    ∧ eigenbasisOf [.groundRydberg, .digital] false = [.r, .g, .h]
    ∧ eigenbasisOf [.digital, .groundRydberg] false = [.r, .g, .h]
    ∧ eigenbasisOf [.XY] true = [.u, .d]
    ∧ eigenbasisOf [] false = [.r, .g]
    ∧ eigenbasisOf [] true = [.u, .d] := by decide +kernel

/-- The levels of an eigenbasis are distinct. -/
theorem eigenbasis_nodup (used : List Basis) (inXY : Bool) : (eigenbasisOf used inXY).Nodup := by
  unfold eigenbasisOf
  exact List.Nodup.filter _ (by decide)

example : (eigenbasisOf [.digital, .groundRydberg] false).length = 3 := by decide +kernel

/-! ### register tensor order -/

/-- **Tensor order, general form.**  Between the configurations `s` and `t` (atom 0 most
significant) the entry of `qutip.tensor([F 0, …, F (n-1)])` is `Π_j (F j)[s j, t j]`: factor `j`
acts on atom `j`, no factor is swapped. -/
theorem tensor_entries (d n : Nat) (F : Nat → Mat K) (s t : Nat → Nat)
    (hs : ∀ j, j < n → s j < d) (ht : ∀ j, j < n → t j < d) :
    tensorN d n F (idxOf d n s) (idxOf d n t) = prodN n (fun j => F j (s j) (t j)) :=
  tensorN_idxOf d n F s t hs ht

/-- **`tensor_index`.**  The Kronecker-product definition of "operator `A` on atom `i`"
(`_build_operator`) equals the entry-wise definition: for basis states number `k, l < d^n`,
`A[digit_i k, digit_i l]` if all other digits agree, else `0`. -/
theorem tensor_index (d n i : Nat) (A : Mat K) (hd : 0 < d) (hi : i < n) (k l : Nat)
    (hk : k < d ^ n) (hl : l < d ^ n) :
    buildOp d n [(i, A)] k l = embedEntry d n i A k l := by
  have e := buildOp_one d n i A (fun j => digit d n j k) (fun j => digit d n j l) hi
    (fun j _ => digit_lt d n j k hd) (fun j _ => digit_lt d n j l hd)
  rw [idxOf_digit d n k hd hk, idxOf_digit d n l hd hl] at e
  rw [e, embedEntry, ite_mul, one_mul, zero_mul]
  simp only [agreeOff, List.mem_singleton, ne_eq]

/-- Digits and indices are inverse to each other (so the two theorems above speak about every
entry of the `d^n × d^n` matrix, and about nothing else). -/
theorem index_digits (d n : Nat) (hd : 0 < d) :
    (∀ k, k < d ^ n → idxOf d n (fun j => digit d n j k) = k)
    ∧ (∀ s : Nat → Nat, (∀ j, j < n → s j < d) →
        idxOf d n s < d ^ n ∧ ∀ j, j < n → digit d n j (idxOf d n s) = s j) :=
  ⟨fun k hk => idxOf_digit d n k hd hk,
   fun s hs => ⟨idxOf_lt d n s hs, fun j hj => digit_idxOf d n s hs j hj⟩⟩

/-! ### code = documentation -/

/-- **`H_code_eq_H_doc`.**  Every entry of the matrix assembled as `_construct_hamiltonian` does
(coefficient `Ω/2·e^{-iφ}` on `σ_ab` and `-δ/2` on `σ_bb`, global operators as sums over the
register, local ones per atom, interaction `U/2·n_i n_j` resp. `U·σ_ud σ_du` over pairs with
masked atoms skipped, all via Kronecker products, then `+ dagger`) equals the documented formula
`Σ_i Σ_basis Ω_i/2 (e^{-iφ_i}|a⟩⟨b|_i + h.c.) − δ_i |b⟩⟨b|_i + Σ_{i<j} U_ij (…)` read entry-wise in
register tensor order — for every number of atoms and levels.  Hypotheses: the conjugation is an
involutive ring homomorphism, `half + half = 1`, detunings / pair coefficients / `half` are real. -/
theorem H_code_eq_H_doc [HasConj K] (L : ConjLaws K) (c : HamIn K) (R : RealIn c) (hd : 0 < c.d) (k l : Nat)
    (hk : k < c.d ^ c.n) (hl : l < c.d ^ c.n) : H_code c k l = H_doc c k l := by
  have e := H_code_idxOf L c R (fun j => digit c.d c.n j k) (fun j => digit c.d c.n j l)
    (fun j _ => digit_lt c.d c.n j k hd) (fun j _ => digit_lt c.d c.n j l hd)
  rw [idxOf_digit c.d c.n k hd hk, idxOf_digit c.d c.n l hd hl] at e
  exact e

/-- The same between configurations (no digits involved). -/
theorem H_code_eq_H_doc_config [HasConj K] (L : ConjLaws K) (c : HamIn K) (R : RealIn c) (s t : Nat → Nat)
    (hs : ∀ j, j < c.n → s j < c.d) (ht : ∀ j, j < c.n → t j < c.d) :
    H_code c (idxOf c.d c.n s) (idxOf c.d c.n t) = H_docC c s t :=
  H_code_idxOf L c R s t hs ht

/-- **Hermitian (code).** `ham + ham.dag()` is hermitian at every sample, whatever was sampled. -/
theorem H_code_hermitian [HasConj K] (L : ConjLaws K) (c : HamIn K) (k l : Nat) :
    H_code c l k = conj (H_code c k l) := by
  simp only [H_code, Mat.add, Mat.dagger, L.conj_add, L.conj_conj]
  ring

/-- **Hermitian (documented formula).** -/
theorem H_doc_hermitian [HasConj K] (L : ConjLaws K) (c : HamIn K) (R : RealIn c) (hd : 0 < c.d) (k l : Nat)
    (hk : k < c.d ^ c.n) (hl : l < c.d ^ c.n) : H_doc c l k = conj (H_doc c k l) := by
  rw [← H_code_eq_H_doc L c R hd k l hk hl, ← H_code_eq_H_doc L c R hd l k hl hk]
  exact H_code_hermitian L c k l

/-! ### interaction terms -/

/-- **van der Waals term.** `U/2 · n_i n_j` (Kronecker product) plus its conjugate has the entries
of `U n_i n_j`, `n = |r⟩⟨r|` — the factor `0.5` of `make_vdw_term` is undone by `+ dagger`. -/
theorem vdw_entries [HasConj K] (L : ConjLaws K) (c : HamIn K) (R : RealIn c) (i j : Nat) (s t : Nat → Nat)
    (hi : i < c.n) (hj : j < c.n) (hne : i ≠ j)
    (hs : ∀ j, j < c.n → s j < c.d) (ht : ∀ j, j < c.n → t j < c.d) :
    Mat.add (vdwTerm c i j) (Mat.dagger (vdwTerm c i j)) (idxOf c.d c.n s) (idxOf c.d c.n t)
      = docVdw c i j s t :=
  vdwTerm_pair L c R i j s t hi hj hne hs ht

/-- **`n_i n_j` is diagonal**: with distinct levels, a non-zero entry of the van der Waals term sits
between equal configurations, and on the diagonal it is `U` exactly when both atoms are in `r`. -/
theorem vdw_diagonal (c : HamIn K) (hnd : c.eb.Nodup) (i j : Nat) (s t : Nat → Nat)
    (hi : i < c.n) (hj : j < c.n) :
    (docVdw c i j s t ≠ 0 → ∀ k, k < c.n → s k = t k)
    ∧ docVdw c i j s s = if isSt c.eb (s i) .r ∧ isSt c.eb (s j) .r then c.U i j else 0 := by
  refine ⟨docVdw_agree c hnd i j s t hi hj, ?_⟩
  unfold docVdw
  have hag : agreeOff c.n [i, j] s s := fun _ _ _ => rfl
  by_cases h1 : isSt c.eb (s i) .r <;> by_cases h2 : isSt c.eb (s j) .r <;> simp [hag, h1, h2]

/-- **XY exchange term.** `U · σ_ud(i) σ_du(j)` (Kronecker product, no factor 1/2) plus its
conjugate has the entries of `U (|u⟩⟨d|_i |d⟩⟨u|_j + h.c.)`. -/
theorem xy_exchange_entries [HasConj K] (L : ConjLaws K) (c : HamIn K) (R : RealIn c) (i j : Nat)
    (s t : Nat → Nat) (hi : i < c.n) (hj : j < c.n) (hne : i ≠ j)
    (hs : ∀ j, j < c.n → s j < c.d) (ht : ∀ j, j < c.n → t j < c.d) :
    Mat.add (xyTerm c i j) (Mat.dagger (xyTerm c i j)) (idxOf c.d c.n s) (idxOf c.d c.n t)
      = docXY c i j s t :=
  xyTerm_pair L c R i j s t hi hj hne hs ht

/-- **The exchange only swaps**: a non-zero entry connects `|..u_i..d_j..⟩` and `|..d_i..u_j..⟩`,
all other atoms unchanged. -/
theorem xy_exchange_only_swaps (c : HamIn K) (i j : Nat) (s t : Nat → Nat)
    (h : docXY c i j s t ≠ 0) :
    agreeOff c.n [i, j] s t ∧
      ((isSt c.eb (s i) .u ∧ isSt c.eb (s j) .d ∧ isSt c.eb (t i) .d ∧ isSt c.eb (t j) .u)
       ∨ (isSt c.eb (s i) .d ∧ isSt c.eb (s j) .u ∧ isSt c.eb (t i) .u ∧ isSt c.eb (t j) .d)) := by
  unfold docXY at h
  by_cases hag : agreeOff c.n [i, j] s t
  · refine ⟨hag, ?_⟩
    by_cases h1 : isSt c.eb (s i) .u ∧ isSt c.eb (t i) .d ∧ isSt c.eb (s j) .d ∧ isSt c.eb (t j) .u
    · exact Or.inl ⟨h1.1, h1.2.2.1, h1.2.1, h1.2.2.2⟩
    · by_cases h2 : isSt c.eb (s i) .d ∧ isSt c.eb (t i) .u ∧ isSt c.eb (s j) .u ∧ isSt c.eb (t j) .d
      · exact Or.inr ⟨h2.1, h2.2.2.1, h2.2.1, h2.2.2.2⟩
      · simp [hag, h1, h2] at h
  · simp [hag] at h

/-- A masked atom is decoupled while the mask is on: every pair containing it contributes 0. -/
theorem masked_pair_decoupled (c : HamIn K) (i j : Nat) (s t : Nat → Nat) (hxy : c.xy = true)
    (hon : c.maskOn = true) (hm : c.mask i = true ∨ c.mask j = true) : docPair c i j s t = 0 := by
  unfold docPair
  rcases hm with hm | hm <;> simp [hxy, hon, hm]

/-! ### non-vacuity: concrete instances over `Cx Rat` (pairs of rationals)

`exIsing`: 2 atoms, levels `r,g`; a global pulse Ω=3, δ=1/2, φ=π/2 and a local pulse on atom 1
with Ω=2, δ=-1, e^{-iφ}=(3-4i)/5; U=7.  `exAll`: the qutrit `r,g,h` with a Raman pulse on atom 0.
`exXY`: 3 atoms, levels `u,d`, atom 1 masked, U_ij = i+2j. -/

abbrev Q := Cx Rat

def z : Drive Q := ⟨0, 0, 1⟩

def exIsing : HamIn Q where
  n := 2
  eb := [.r, .g]
  xy := false
  half := ⟨1/2, 0⟩
  glob := fun β => match β with
    | .groundRydberg => ⟨⟨3, 0⟩, ⟨1/2, 0⟩, ⟨0, -1⟩⟩
    | _ => z
  loc := fun β q => match β, q with
    | .groundRydberg, 1 => ⟨⟨2, 0⟩, ⟨-1, 0⟩, ⟨3/5, -4/5⟩⟩
    | _, _ => z
  U := fun _ _ => ⟨7, 0⟩
  mask := fun _ => false
  maskOn := false

def exAll : HamIn Q := { exIsing with
  eb := [.r, .g, .h]
  loc := fun β q => match β, q with
    | .digital, 0 => ⟨⟨4, 0⟩, ⟨3, 0⟩, ⟨0, 1⟩⟩
    | _, _ => z }

def exXY (on : Bool) : HamIn Q where
  n := 3
  eb := [.u, .d]
  xy := true
  half := ⟨1/2, 0⟩
  glob := fun β => match β with
    | .XY => ⟨⟨2, 0⟩, ⟨1, 0⟩, ⟨3/5, 4/5⟩⟩
    | _ => z
  loc := fun _ _ => z
  U := fun i j => ⟨(i + 2 * j : Nat), 0⟩
  mask := fun q => q == 1
  maskOn := on

theorem realIsing : RealIn exIsing where
  half_real := by decide +kernel
  half_add := by decide +kernel
  gdet_real := by intro β; cases β <;> decide +kernel
  ldet_real := by intro β; cases β <;> decide +kernel
  U_real := by decide +kernel

theorem realAll : RealIn exAll where
  half_real := by decide +kernel
  half_add := by decide +kernel
  gdet_real := by intro β; cases β <;> decide +kernel
  ldet_real := by intro β; cases β <;> decide +kernel
  U_real := by decide +kernel

theorem realXY (on : Bool) : RealIn (exXY on) := by
  cases on <;> exact
    { half_real := by decide +kernel
      half_add := by decide +kernel
      gdet_real := by intro β; cases β <;> decide +kernel
      ldet_real := by intro β; cases β <;> decide +kernel
      U_real := by decide +kernel }

/-- `tensor_index`, 2 atoms with 2 and 3 levels: `|g⟩⟨r|` on atom 0 connects `|rg⟩ → |gg⟩`
(basis states 1 → 3 for `d = 2`; 1 → 4 for `d = 3`), the same operator on atom 1 does not, and the
entry-wise definition says the same. -/
example : (buildOp 2 2 [(0, sigma [.r, .g] .g .r)] : Mat Q) 3 1 = 1
    ∧ (embedEntry 2 2 0 (sigma [.r, .g] .g .r) : Mat Q) 3 1 = 1
    ∧ (buildOp 2 2 [(1, sigma [.r, .g] .g .r)] : Mat Q) 3 1 = 0
    ∧ (buildOp 2 2 [(1, sigma [.r, .g] .g .r)] : Mat Q) 1 0 = 1
    ∧ (buildOp 3 2 [(0, sigma [.r, .g, .h] .g .r)] : Mat Q) 4 1 = 1
    ∧ (embedEntry 3 2 0 (sigma [.r, .g, .h] .g .r) : Mat Q) 4 1 = 1
    ∧ (buildOp 3 2 [(1, sigma [.r, .g, .h] .g .r)] : Mat Q) 4 1 = 0 := by decide +kernel

example : ∀ k l, k < 3 ^ 2 → l < 3 ^ 2 →
    (buildOp 3 2 [(1, sigma [.r, .g, .h] .h .g)] : Mat Q) k l
      = embedEntry 3 2 1 (sigma [.r, .g, .h] .h .g) k l :=
  fun k l hk hl => tensor_index 3 2 1 _ (by decide) (by decide) k l hk hl

/-- `tensor_entries` / `index_digits`: configuration (1,0,2) of three qutrits is state number 11. -/
example : idxOf 3 3 (fun j => [1, 0, 2].getD j 0) = 11
    ∧ digit 3 3 0 11 = 1 ∧ digit 3 3 1 11 = 0 ∧ digit 3 3 2 11 = 2 := by decide +kernel

/-- `H_code_eq_H_doc` applies to the three instances, and the common value is not trivially 0:
off-diagonal entries carry `Ω/2 e^{∓iφ}` of the right atom, the diagonal `U − Σδ`. -/
example : ∀ k l, k < 2 ^ 2 → l < 2 ^ 2 → H_code exIsing k l = H_doc exIsing k l :=
  fun k l hk hl => H_code_eq_H_doc Cx.conjLaws exIsing realIsing (by decide) k l hk hl

example : ∀ k l, k < 3 ^ 2 → l < 3 ^ 2 → H_code exAll k l = H_doc exAll k l :=
  fun k l hk hl => H_code_eq_H_doc Cx.conjLaws exAll realAll (by decide) k l hk hl

example (on : Bool) : ∀ k l, k < 2 ^ 3 → l < 2 ^ 3 → H_code (exXY on) k l = H_doc (exXY on) k l :=
  fun k l hk hl => H_code_eq_H_doc Cx.conjLaws (exXY on) (realXY on) (by cases on <;> decide) k l hk hl

example : H_code exIsing 0 0 = ⟨7, 0⟩ ∧ H_doc exIsing 0 0 = ⟨7, 0⟩              -- U − δ_0 − δ_1 = 7 − 1/2 + 1/2
    ∧ H_code exIsing 1 0 = ⟨3/5, -23/10⟩ ∧ H_doc exIsing 1 0 = ⟨3/5, -23/10⟩     -- atom 1: (3/2)(−i) + (3−4i)/5
    ∧ H_code exIsing 2 0 = ⟨0, -3/2⟩ ∧ H_doc exIsing 0 2 = ⟨0, 3/2⟩               -- atom 0: global only
    ∧ H_code exIsing 1 1 = ⟨-1/2, 0⟩ ∧ H_code exIsing 2 2 = ⟨1/2, 0⟩
    ∧ H_code exIsing 3 0 = 0 := by decide +kernel

example : H_code exAll 6 3 = ⟨0, 2⟩ ∧ H_doc exAll 6 3 = ⟨0, 2⟩                   -- |h⟩⟨g| on atom 0: 4/2·e^{-iφ}, e^{-iφ} = i
    ∧ H_code exAll 3 3 = ⟨-7/2, 0⟩ ∧ H_doc exAll 3 3 = ⟨-7/2, 0⟩                  -- |g r⟩: −3 (digital δ on g) − 1/2
    ∧ H_code exAll 0 0 = ⟨6, 0⟩ := by decide +kernel

/-- Hermiticity on the instances (both theorems apply; entries are genuinely complex). -/
example : H_doc exIsing 0 1 = conj (H_doc exIsing 1 0) :=
  H_doc_hermitian Cx.conjLaws exIsing realIsing (by decide) 1 0 (by decide) (by decide)

example : H_code exAll 3 6 = conj (H_code exAll 6 3) := H_code_hermitian Cx.conjLaws exAll 6 3

example : H_doc exIsing 1 0 ≠ H_doc exIsing 0 1 := by decide +kernel

/-- Interaction terms: `vdw_entries` / `vdw_diagonal` on `exIsing` (only `|rr⟩⟨rr|`, value U = 7,
although the code's coefficient is 7/2); `xy_exchange_entries` / `xy_exchange_only_swaps` on `exXY`
(pair (0,2), U = 4, connects the configurations `(u,·,d)` ↔ `(d,·,u)`, i.e. states 1 ↔ 4 and
3 ↔ 6), and the masked pairs (0,1), (1,2) vanish while the mask is on. -/
example : vdwTerm exIsing 0 1 0 0 = ⟨7/2, 0⟩
    ∧ Mat.add (vdwTerm exIsing 0 1) (Mat.dagger (vdwTerm exIsing 0 1)) 0 0 = ⟨7, 0⟩
    ∧ docVdw exIsing 0 1 (fun _ => 0) (fun _ => 0) = ⟨7, 0⟩
    ∧ docVdw exIsing 0 1 (fun j => if j = 0 then 0 else 1) (fun j => if j = 0 then 0 else 1) = 0 := by
  decide +kernel

example : exIsing.eb.Nodup ∧ exAll.eb.Nodup ∧ (exXY true).eb.Nodup := by decide +kernel

example : Mat.add (xyTerm (exXY true) 0 2) (Mat.dagger (xyTerm (exXY true) 0 2)) 1 4 = ⟨4, 0⟩
    ∧ Mat.add (xyTerm (exXY true) 0 2) (Mat.dagger (xyTerm (exXY true) 0 2)) 4 1 = ⟨4, 0⟩
    ∧ Mat.add (xyTerm (exXY true) 0 2) (Mat.dagger (xyTerm (exXY true) 0 2)) 3 6 = ⟨4, 0⟩
    ∧ Mat.add (xyTerm (exXY true) 0 2) (Mat.dagger (xyTerm (exXY true) 0 2)) 1 2 = 0
    ∧ docXY (exXY true) 0 2 (fun j => digit 2 3 j 1) (fun j => digit 2 3 j 4) = ⟨4, 0⟩ := by
  decide +kernel

example : H_code (exXY true) 1 4 = ⟨4, 0⟩ ∧ H_code (exXY true) 2 4 = 0 ∧ H_code (exXY true) 1 2 = 0
    ∧ H_code (exXY false) 2 4 = ⟨2, 0⟩ ∧ H_code (exXY false) 1 2 = ⟨5, 0⟩
    ∧ docPair (exXY true) 0 1 (fun j => digit 2 3 j 2) (fun j => digit 2 3 j 4) = 0
    ∧ docPair (exXY false) 0 1 (fun j => digit 2 3 j 2) (fun j => digit 2 3 j 4) = ⟨2, 0⟩ := by
  decide +kernel

end C05
end Ham
end Pulser
