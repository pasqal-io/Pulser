/-
  C14 — Output modulation is an area-preserving low-pass and fall times cover it
  (PARTIAL, level "other").

  Only property theorems (and their non-vacuity examples) live here; helper lemmas are in
  Proofs/Modulation.lean.  Model: PulserModel/Modulation.lean.

  Carried here: linearity and DC gain of the filter *as coded* (`ifft(fft(x)·m)` over any field
  with a primitive n-th root of unity) and of the circular-convolution reading; non-negativity
  and the max bound **under the hypothesis of a non-negative unit-sum kernel** (the real kernel
  is the inverse DFT of a sampled, truncated Gaussian and only satisfies this up to a ripple —
  that part is numeric validation); the −3 dB constant of `apply_modulation`; all the integer
  padding / slicing / length arithmetic of `Channel.modulate`, `Waveform.modulated_samples`,
  `ChannelSamples.modulate` and `sample(modulation=True)`; success of modulated sampling.  The
  repair of F14 (/repo d9bdcf58: guarded edge padding) is mirrored; `modulate_empty_old` states what
  the unguarded code did (numpy's "can't extend empty axis" modelled exactly).

  NOT carried (monitor only, `uncovered_clauses`): float FFT accuracy, the ripple bounds, the
  "below max(0.01, 0.6 % of peak) beyond the fall time" inequality, everything involving EOM blocks
  in `ChannelSamples.modulate`, and that the code's kernel `ifft(m)` is non-negative (it is not,
  exactly: see the ripple measured by the monitor).
-/
import Proofs.Modulation
import Mathlib.Analysis.SpecialFunctions.Log.Basic
import Mathlib.Analysis.Real.Sqrt
namespace Pulser
namespace C14
open Pulser.Mod Finset

/-- **Linearity** of `apply_modulation` as coded, `ifft(fft(x)·m)`, in any commutative semiring
and for any tables of root-of-unity powers. -/
theorem modulate_linear {R : Type} [CommSemiring R] {n : Nat} (pw pwInv : Nat → R) (ninv : R)
    (m x y : Fin n → R) (a b : R) (i : Fin n) :
    modulateDft pw pwInv ninv m (fun j => a * x j + b * y j) i =
      a * modulateDft pw pwInv ninv m x i + b * modulateDft pw pwInv ninv m y i := by
  unfold modulateDft
  -- the forward transform is linear, so is the product with `m`, so is the inverse transform
  simp only [dftWith_linear pw, add_mul, mul_assoc]
  rw [dftWith_linear, mul_add, mul_left_comm, mul_left_comm ninv b]

/-- Linearity in the circular-convolution reading. -/
theorem modulate_linear_conv {R : Type} [CommSemiring R] {n : Nat} (h x y : Fin n → R) (a b : R)
    (i : Fin n) :
    circConv h (fun j => a * x j + b * y j) i = a * circConv h x i + b * circConv h y i := by
  unfold circConv
  simp only [mul_add, mul_left_comm (h _)]
  exact sumFin_linear _ _ a b

/-- **The integral is preserved.**  Normalisation: forward transform `X k = Σ_j x j ω^(jk)`,
inverse transform with `ω⁻¹` and the factor `1/n` (numpy's `fft`/`ifft`).  For `ω` a primitive
n-th root of unity in a field, the output sums to `m 0 · Σ x`; so a transfer function with
`m 0 = 1` (here `exp(−0²/fc²) = 1`) preserves the sum, i.e. the integral. -/
theorem modulate_preserves_sum {K : Type} [Field K] {n : Nat} [NeZero n] (ω ωi ninv : K)
    (hω : ω ^ n = 1) (hinv : ω * ωi = 1) (hprim : ∀ k, 0 < k → k < n → ωi ^ k ≠ 1)
    (hn : ninv * (n : K) = 1) (m x : Fin n → K) (hm : m 0 = 1) :
    ∑ i, modulateDft (fun t => ω ^ t) (fun t => ωi ^ t) ninv m x i = ∑ j, x j := by
  rw [modulateDft_sum ω ωi ninv hω hinv hprim hn m x, hm, one_mul]

/-- The same in the convolution reading: the output sums to `(Σ h)·(Σ x)`. -/
theorem modulate_preserves_sum_conv {R : Type} [CommRing R] {n : Nat} [NeZero n] (h x : Fin n → R)
    (h1 : ∑ k, h k = 1) : ∑ i, circConv h x i = ∑ j, x j := by
  rw [circConv_sum, h1, one_mul]

/-- Non-vacuity of `modulate_preserves_sum`: ℚ, n = 2, ω = −1. -/
example : ∑ i, modulateDft (fun t => (-1 : ℚ) ^ t) (fun t => (-1 : ℚ) ^ t) (1 / 2)
    (fun k : Fin 2 => if k = 0 then 1 else 1 / 3) (fun j : Fin 2 => if j = 0 then 5 else 7) i = 12 := by
  rw [modulate_preserves_sum (-1 : ℚ) (-1) (1 / 2) (n := 2) (by decide +kernel) (by decide +kernel)
    (fun k h0 h2 => by obtain rfl : k = 1 := Nat.le_antisymm (Nat.le_of_lt_succ h2) h0; decide +kernel)
    (by decide +kernel) _ _ rfl, Fin.sum_univ_two]
  decide +kernel

/-- **The two readings agree** (convolution theorem): for `ω` with `ω^n = 1` and inverse `ωi`, the
filter as coded, `ifft(fft(x)·m)`, *is* the circular convolution of `x` with the impulse response
`kernelOf = ifft(m)`.  Hence the kernel-level statements below speak about the code's filter. -/
theorem modulate_is_convolution {K : Type} [Field K] {n : Nat} (ω ωi ninv : K) (hω : ω ^ n = 1)
    (hinv : ω * ωi = 1) (m x : Fin n → K) (i : Fin n) :
    modulateDft (fun t => ω ^ t) (fun t => ωi ^ t) ninv m x i =
      circConv (kernelOf (fun t => ωi ^ t) ninv m) x i :=
  modulateDft_eq_circConv ω ωi ninv hω hinv m x i

/-- **No negative output from non-negative input, no output above the input maximum** — for a
kernel that is non-negative and sums to one.  (Hypothesis on the kernel: true of a Gaussian,
true of the code's sampled kernel only up to the truncation ripple; see the monitor.) -/
theorem modulate_nonneg_and_bounded {K : Type} [CommRing K] [LinearOrder K] [IsStrictOrderedRing K]
    {n : Nat} [NeZero n] (h x : Fin n → K) (hh : ∀ k, 0 ≤ h k) (h1 : ∑ k, h k = 1) :
    ((∀ j, 0 ≤ x j) → ∀ i, 0 ≤ circConv h x i) ∧
    (∀ M, (∀ j, x j ≤ M) → ∀ i, circConv h x i ≤ M) :=
  ⟨fun hx i => circConv_nonneg h x hh hx i, fun M hx i => circConv_le_bound h x hh h1 M hx i⟩

/-- **Half amplitude at the bandwidth**: with `fc = bw·10⁻³/√(ln 2)` (the constant of
`apply_modulation`), the transfer function `exp(−f²/fc²)` at `f = bw·10⁻³` equals `1/2`. -/
theorem gain_at_bandwidth (bw : ℝ) (hbw : bw ≠ 0) :
    Real.exp (-(bw * 1e-3) ^ 2 / (bw * 1e-3 / Real.sqrt (Real.log 2)) ^ 2) = 1 / 2 := by
  -- `−f²/(f²/ln 2) = −ln 2`, and `exp(−ln 2) = 1/2`
  have hb : (bw * 1e-3) ^ 2 ≠ 0 := pow_ne_zero 2 (mul_ne_zero hbw (by norm_num))
  rw [div_pow, Real.sq_sqrt (Real.log_nonneg one_le_two), neg_div, div_div_cancel₀ hb, Real.exp_neg,
    Real.exp_log two_pos, one_div]

/-- **One rise time at each end.**  `Channel.modulate` of `n` samples returns `n + 2·padding`
samples (`padding` = rise time of the channel, or of the EOM when `eom=True`): always without
`keep_ends`; with `keep_ends` provided `rise_time ≥ 1` — for every input, the empty one included
(since /repo d9bdcf58).  A channel without bandwidth returns its input. -/
theorem modulate_length {α : Type} [Zero α] (filt : List α → List α)
    (hf : ∀ l, (filt l).length = l.length) (c : ModCfg) (x : List α) :
    (c.filters = false → ∀ k, channelModulate filt c x k = x) ∧
    (c.filters = true → (channelModulate filt c x false).length = x.length + 2 * c.pad) ∧
    (c.filters = true → 1 ≤ c.rise → (channelModulate filt c x true).length = x.length + 2 * c.pad) :=
  ⟨fun hc k => channelModulate_nofilter filt c hc x k,
   fun hc => channelModulate_plain filt hf c hc x,
   fun hc hr => channelModulate_keep filt hf c hc hr x⟩

/-- The hypothesis `rise_time ≥ 1` of the `keep_ends` case is forced: `rise_time = 0` would return
*no* sample (`[0:-0]`; excluded on real channels by `mod_bandwidth ≤ 480 MHz`, which the monitor
checks). -/
theorem modulate_keep_ends_degenerate {α : Type} [Zero α] (filt : List α → List α) (c : ModCfg)
    (hc : c.filters = true) (hr : c.rise = 0) (x : List α) : channelModulate filt c x true = [] := by
  simp only [channelModulate, hc, hr]
  have := pySlice_zero_empty (filt (padKeep x (c.pad + 0)))
  simp only [Int.neg_zero] at this
  simpa using this

/-- **F14, about the old code** (before /repo d9bdcf58): `Channel.modulate([], keep_ends=True)` was
numpy's empty edge-pad error, and on every other input the old and the repaired function agree. -/
theorem modulate_empty_old {α : Type} [Zero α] (filt : List α → List α) (c : ModCfg)
    (hc : c.filters = true) (hk : 0 < c.pad + c.rise) :
    channelModulateOld filt c ([] : List α) true = none ∧
    ∀ (x : List α) (k : Bool), (x ≠ [] ∨ k = false) →
      channelModulateOld filt c x k = some (channelModulate filt c x k) :=
  ⟨channelModulateOld_keep_empty filt c hc hk, fun x k h => channelModulateOld_eq filt c x k h⟩

/-- `Waveform.modulated_samples`: trimming the `n + 2·tr` modulated samples with buffers
`start, end ≤ tr` leaves `n + start + end` samples. -/
theorem modulated_samples_length {α : Type} (mod : List α) (n tr start stop : Nat)
    (hm : mod.length = n + 2 * tr) (hs : start ≤ tr) (he : stop ≤ tr) :
    (trimModulated mod tr start stop).length = n + start + stop := by
  -- `tr = start + a`: the slice is `mod[a : n + tr + stop]`, inside `mod` because `stop ≤ tr`
  obtain ⟨a, rfl⟩ := Nat.exists_eq_add_of_le hs
  have hL : mod.length = n + (start + a) + (start + a) := by rw [hm, Nat.two_mul, ← Nat.add_assoc]
  have hb : n + (start + a) + stop ≤ mod.length := hL ▸ Nat.add_le_add_left he _
  have ha : a ≤ mod.length := hL ▸ Nat.le_trans (Nat.le_add_left a start) (Nat.le_add_left _ _)
  rw [trimModulated, ← Nat.cast_sub hs, Nat.add_sub_cancel_left, hL, Nat.cast_add (n + (start + a)),
    add_sub_cancel_right, ← Nat.cast_add,
    pySlice_length (Wave.pyAdjust_natCast _ _ ha) (Wave.pyAdjust_natCast _ _ hb) hb,
    ← Nat.add_assoc n, Nat.add_right_comm _ a, Nat.add_sub_cancel]

/-- **Modulated sampling ends at the channel duration including fall time.**  For a channel with
`n ≥ 0` plain samples in each array and a bandwidth (`rise ≥ 1`, standard padding), without
`extended_duration`, and with `get_duration(include_fall_time=True) ≤ n + 2·rise` (hypothesis A1
of DESIGN §4: fall time ≤ 2·rise time, monitored), the three arrays returned by
`sample(seq, modulation=True)` have exactly that length.  Empty channels included: their samples
are returned unchanged (/repo 0b0bffd1) and their duration including fall time is 0 (`hempty`,
a fact of `_ChannelSchedule.get_duration`). -/
theorem modulated_sampling_length {α : Type} [Zero α] (filt : List α → List α)
    (hf : ∀ l, (filt l).length = l.length) (c : ModCfg) (hc : c.filters = true) (hr : 1 ≤ c.rise)
    (hp : c.pad = c.rise) (s : CS α) (n durWithFall : Nat)
    (ha : s.amp.length = n) (hd : s.det.length = n) (hph : s.phase.length = n)
    (hfall : durWithFall ≤ n + 2 * c.rise) (hempty : n = 0 → durWithFall = 0) :
    ∃ r, sampleChannel filt c s true 0 durWithFall = some r ∧
      r.amp.length = durWithFall ∧ r.det.length = durWithFall ∧ r.phase.length = durWithFall :=
  ⟨_, by simp [sampleChannel],
    csModulate_lengths filt c _ (channelModulate_length filt hf c hc hr) s n durWithFall ha hd hph
      (by rw [hp]; exact hfall) hempty⟩

/-- A channel without bandwidth: the arrays keep their `n` samples (fall time 0: A3). -/
theorem modulated_sampling_length_nobw {α : Type} [Zero α] (filt : List α → List α) (c : ModCfg)
    (hc : c.filters = false) (s : CS α) (n : Nat)
    (ha : s.amp.length = n) (hd : s.det.length = n) (hph : s.phase.length = n) :
    ∃ r, sampleChannel filt c s true 0 n = some r ∧
      r.amp.length = n ∧ r.det.length = n ∧ r.phase.length = n :=
  ⟨_, by simp [sampleChannel],
    csModulate_lengths filt c 0 (fun x k => by rw [channelModulate_nofilter filt c hc]; rfl) s n n
      ha hd hph (Nat.le_refl _) (fun h => h)⟩

/-- With `extended_duration = E ≥ n`, `E > 0`, the arrays have length `E`. -/
theorem modulated_sampling_length_extended {α : Type} [Zero α] (filt : List α → List α)
    (hf : ∀ l, (filt l).length = l.length) (c : ModCfg) (hc : c.filters = true) (hr : 1 ≤ c.rise)
    (s : CS α) (n E d : Nat) (hE0 : E ≠ 0) (hE : n ≤ E)
    (ha : s.amp.length = n) (hd : s.det.length = n) (hph : s.phase.length = n) :
    ∃ r, sampleChannel filt c s true E d = some r ∧
      r.amp.length = E ∧ r.det.length = E ∧ r.phase.length = E := by
  obtain ⟨s1, h1⟩ := extendDuration_isSome s (new := E) (ha ▸ hE)
  obtain ⟨_, la, ld, lp⟩ := extendDuration_lengths h1
  rw [ha, Nat.add_sub_cancel' hE] at la
  rw [hd, ha, Nat.add_sub_cancel' hE] at ld
  rw [hph, ha, Nat.add_sub_cancel' hE] at lp
  exact ⟨_, sampleChannel_extended filt c d hE0 h1,
    csModulate_lengths filt c _ (channelModulate_length filt hf c hc hr) s1 E E la ld lp
      (Nat.le_add_right _ _) (fun h => absurd h hE0)⟩

/-- **Modulated sampling succeeds whenever plain sampling does** — for every channel, empty ones
included (the domain restriction that F14 forced is gone since /repo d9bdcf58): both differ only
by the total step `csModulate`. -/
theorem modulated_sampling_succeeds {α : Type} [Zero α] (filt : List α → List α) (c : ModCfg)
    (s : CS α) (E d : Nat) (hplain : (sampleChannel filt c s false E d).isSome = true) :
    (sampleChannel filt c s true E d).isSome = true := by
  unfold sampleChannel at hplain ⊢
  cases h : (if E ≠ 0 then extendDuration s E else some s) with
  | none => simp [h] at hplain
  | some s1 => simp

/-- An empty channel with a bandwidth is sampled to empty arrays, modulated or not. -/
theorem modulated_sampling_empty {α : Type} [Zero α] (filt : List α → List α) (c : ModCfg) :
    (sampleChannel filt c ({ amp := [], det := [], phase := [] } : CS α) true 0 0).map
      (fun r => (r.amp, r.det, r.phase)) = some ([], [], []) := by
  simp [sampleChannel, csModulate]

/-- Non-vacuity: identity filter, rise time 2: 3 samples become 7, cut at 5; lengths as stated. -/
example : (sampleChannel (α := Int) id ⟨true, 2, 2⟩ ⟨[1, 2, 3], [4, 5, 6], [7, 7, 7]⟩ true 0 5).map
    (fun r => (r.amp, r.det, r.phase)) =
    some ([0, 0, 1, 2, 3], [4, 4, 4, 5, 6], [7, 7, 7, 7, 7]) := by decide +kernel

example : (channelModulate (α := Int) id ⟨true, 2, 2⟩ [] true, channelModulateOld (α := Int) id ⟨true, 2, 2⟩ [] true)
    = ([0, 0, 0, 0], none) := by decide +kernel

end C14
end Pulser
