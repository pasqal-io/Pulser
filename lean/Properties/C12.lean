/-
  C12 — A device accepts exactly the registers and layouts that fit its geometry.

  The specification predicates (`Fits`, `LayoutFits`, `CoordsOk`, `ValidParams`) and helper
  lemmas are in Proofs/Geometry.lean.  Model: PulserModel/Geometry.lean.

  Clauses of the property and the theorems that carry them
    "accepts a register iff atom number, pairwise distance (and distinct), radial distance,
     dimensionality, and — from a layout — trap number, trap geometry, filling"
                                               validate_iff_fits, validate_layout_iff_fits,
                                               validate_mappable_iff, too_close_iff_distance
    "the atoms reported as offending are exactly the violating ones"
                                               culprits_exact, culprits_ordered
    "device objects with any valid combination of parameters can be constructed"
                                               device_params_ok
    "registers produced by the device-aware constructors are always accepted"
                                               NOT a theorem: float lattices and a greedy mesh
                                               search — monitor only (harness/props/C12.py)
  Idealisation: distances / norms / the filling product are exact (ℚ, ℝ for the square
  root); float64 rounding within ~1e-11 of a threshold is outside the theorems and is
  counted as float-ambiguous by the harness.
-/
import Proofs.Geometry
import Mathlib.Analysis.Real.Sqrt
namespace Pulser
namespace C12
open Geom

/-- **The device accepts a register if and only if it fits**: `validate_register` raises
nothing exactly when the dimensionality is supported, there are no more atoms than the
maximum, every pair of atoms is at least the minimum distance apart (with the 1e-6 slack)
and distinct, every atom lies within the maximum radial distance and, when the register
comes from a layout, the layout fits (`LayoutFits`) and the filling fraction is within the
maximum.  (`hf`: a constructed device has a positive maximum filling, see `device_params_ok`.) -/
theorem validate_iff_fits (dev : DeviceGeom) (hf : 0 ≤ dev.maxFilling) (reg : RegG) :
    validateRegister dev reg = none ↔ Fits dev reg := by
  rw [validateRegister, ite_some_eq_none, not_lt]
  constructor
  · rintro ⟨h1, h⟩
    split at h
    · cases h
    · rename_i hc
      refine ⟨h1, (validateCoords_none_iff _ _ _).mp hc, fun L hL => ?_⟩
      -- with a layout, `validate_register` goes on as `validateMappable` does
      rw [hL] at h
      exact (validateMappable_none_iff dev hf L _).mp h
  · rintro ⟨h1, h2, h3⟩
    refine ⟨h1, ?_⟩
    rw [(validateCoords_none_iff _ _ _).mpr h2]
    cases hL : reg.layout with
    | none => rfl
    | some L => exact (validateMappable_none_iff dev hf L _).mpr (h3 L hL)

/-- The same for `validate_layout`: allowed dimensionality, allowed number of traps, valid
trap geometry (distances and radial distance; no limit on the number of traps from
`max_atom_num`). -/
theorem validate_layout_iff_fits (dev : DeviceGeom) (L : LayoutG) :
    validateLayout dev L = none ↔ LayoutFits dev L :=
  validateLayout_none_iff dev L

/-- Sequence creation with a mappable register: the layout must fit and the number of
declared qubits must respect the filling fraction. -/
theorem validate_mappable_iff (dev : DeviceGeom) (hf : 0 ≤ dev.maxFilling) (L : LayoutG) (n : Nat) :
    validateMappable dev L n = none ↔
      LayoutFits dev L ∧ (n : Rat) ≤ (L.traps.length : Rat) * dev.maxFilling :=
  validateMappable_none_iff dev hf L n

/-- **What "too close" means**: the test on squared distances used by the model is the
test the code states on the distance itself, `√s − min_atom_distance < −1e-6 ∨ √s < 1e-6`
(closer than the minimum distance beyond the coordinate precision, or identical). -/
theorem too_close_iff_distance (m s : Rat) (hs : 0 ≤ s) :
    tooClose m s = true ↔
      (Real.sqrt (s : ℝ) - (m : ℝ) < -((eps : Rat) : ℝ) ∨ Real.sqrt (s : ℝ) < ((eps : Rat) : ℝ)) := by
  rw [tooClose_eq_true_iff, close_iff_sq (Real.sqrt_nonneg _) (Rat.cast_pos.mpr eps_pos),
    Real.mul_self_sqrt (Rat.cast_nonneg.mpr hs)]
  norm_cast

/-- **The atoms reported as offending are exactly the violating ones.**
A distance error lists exactly the index pairs `i < j` that are too close; a radius error
lists exactly the atoms beyond the maximum radial distance; an atom-number error reports
the number of atoms, which exceeds the maximum. -/
theorem culprits_exact (dev : DeviceGeom) (ps : List Pos) (atoms : Bool) :
    (∀ pairs, validateCoords dev ps atoms = some (.distance pairs) →
      ∀ i j, (i, j) ∈ pairs ↔
        i < j ∧ j < ps.length ∧ tooClose dev.minDist (sqDist (ps.getD i []) (ps.getD j [])) = true) ∧
    (∀ ids, validateCoords dev ps atoms = some (.radius ids) →
      ∃ R, dev.maxRadial = some R ∧
        ∀ i, i ∈ ids ↔ i < ps.length ∧ (R : Rat) * R < sqNorm (ps.getD i [])) ∧
    (∀ n, validateCoords dev ps atoms = some (.atomsNumber n) →
      n = ps.length ∧ ∃ k, dev.maxAtomNum = some k ∧ k < n) := by
  refine ⟨fun _ h i j => ?_, fun _ h => ?_, fun n h => ?_⟩
  · rw [validateCoords_some h]; exact mem_badPairs
  · obtain ⟨R, hR, rfl⟩ := validateCoords_some h
    exact ⟨R, hR, fun i => mem_tooFar⟩
  · exact (validateCoords_some h).imp_right (exceeds_true_iff _ _).mp

/-- The culprits are listed in a fixed order: pairs in the order of `np.argwhere` on the
upper triangle (by `i`, then `j`), atoms by increasing index; nothing is listed twice. -/
theorem culprits_ordered (dev : DeviceGeom) (ps : List Pos) (R : Nat) :
    (badPairs dev ps).Pairwise (fun a b => a.1 < b.1 ∨ (a.1 = b.1 ∧ a.2 < b.2)) ∧
    (tooFar R ps).Pairwise (· < ·) := by
  constructor
  · apply List.Pairwise.filter
    unfold allPairs
    rw [List.pairwise_flatMap]
    constructor
    · intro i _
      exact List.pairwise_map.mpr (((List.pairwise_lt_range).filter _).imp fun hab => .inr ⟨rfl, hab⟩)
    · refine (List.pairwise_lt_range (n := ps.length)).imp fun hab x hx y hy => ?_
      simp only [List.mem_map, List.mem_filter] at hx hy
      obtain ⟨_, _, rfl⟩ := hx
      obtain ⟨_, _, rfl⟩ := hy
      exact .inl hab
  · exact (List.pairwise_lt_range).filter _

/-- **Device objects with any valid combination of parameters can be constructed**, and
only those: `Device(**p)` / `VirtualDevice(**p)` raises nothing exactly when the documented
constraints `ValidParams p` hold (dimensions 2 or 3; Rydberg level in 50..100; non-negative
minimum distance; positive integer limits, undefined only where the device class allows;
`0 < max_layout_filling ≤ 1`; `0 < optimal ≤ max`; `min_layout_traps ≤ max_layout_traps` and
enough room for `max_atom_num` atoms; a DMM when the SLM mask is supported; distinct channel
ids, one per channel, none named like a DMM; a float `interaction_coeff_xy` with a Microwave
channel; for a `Device`: no virtual channel and fitting pre-calibrated layouts). -/
theorem device_params_ok (p : DevParams) : mkDevice p = none ↔ ValidParams p := by
  have hlay : (if p.virtualDev = true then none else checkLayouts p.geom p.layouts) = none ↔
      (p.virtualDev = false → ∀ L ∈ p.layouts, LayoutFits p.geom L) := by
    cases p.virtualDev
    · exact (checkLayouts_none_iff _ _).trans ⟨fun h _ => h, fun h => h rfl⟩
    · exact ⟨fun _ h => Bool.noConfusion h, fun _ => rfl⟩
  -- one conjunct per statement of `__post_init__`, each in the form of its `ValidParams` field
  simp only [mkDevice, firstErr_cons_eq_none, ite_none_eq_none, ite_some_eq_none,
    checkInt_none_iff, checkMinDist_none_iff, checkTraps_none_iff, checkChannelIds_none_iff,
    hlay, and_true, not_and, List.any_eq_true, Bool.not_eq_true, Bool.not_eq_false, not_exists]
  constructor
  · rintro ⟨a1, a2, a3, a4, a5, a6, a7, a8, a9, a10, a11, a12, a13, a14, a15, a16, a17, _⟩
    refine ⟨a1, a2, a3, a4, a5, a6, a7, a8, a9, a10, fun o ho => ?_, a12, a13, a14, a15,
      fun h => ⟨a16 h, a17 h⟩⟩
    rw [ho] at a11
    exact ite_none_eq_none.mp a11
  · intro h
    refine ⟨h.dims, h.ryd, h.minDist, h.maxAtom, h.maxRadial, h.maxSeq, h.maxRuns, h.minTraps,
      h.maxTraps, h.filling, ?_, h.traps, h.slm, h.ids, h.xy, fun hv => (h.physical hv).1,
      fun hv => (h.physical hv).2, rfl⟩
    cases ho : p.optimalLayoutFilling with
    | none => rfl
    | some o => exact ite_none_eq_none.mpr (h.optimal o ho)

/-! ### Non-vacuity -/

/-- A device like `AnalogDevice`: 2D, 5 µm apart, at most 6 atoms within 10 µm, layouts of
1..20 traps filled to at most one half. -/
def exDev : DeviceGeom :=
  { dims := 2, minDist := 5, maxAtomNum := some 6, maxRadial := some 10, minTraps := 1,
    maxTraps := some 20, maxFilling := 1 / 2 }

def exLayout : LayoutG := ⟨2, [[0, 0], [5, 0], [0, 5], [5, 5], [-5, 0], [0, -5]]⟩

/-- accepted: three atoms exactly 5 µm apart (3-4-5 triangle scaled), from a layout of 6 traps -/
def exReg : RegG := ⟨2, [[0, 0], [5, 0], [0, 5]], some exLayout⟩

example : validateRegister exDev exReg = none := by decide +kernel
example : Fits exDev exReg := (validate_iff_fits exDev (by decide +kernel) exReg).mp (by decide +kernel)

/-- one micro-unit inside the slack is accepted, beyond it is rejected with the exact culprits -/
example : validateRegister exDev ⟨2, [[0, 0], [4999999 / 1000000, 0], [0, 5]], none⟩ = none := by
  decide +kernel
example : validateRegister exDev ⟨2, [[0, 0], [4999998 / 1000000, 0], [0, 5], [3, 4]], none⟩
    = some (.coords (.distance [(0, 1), (1, 3), (2, 3)])) := by decide +kernel
example : validateRegister exDev ⟨2, [[0, 0], [6, 8], [0, -10], [10, 1 / 1000000]], none⟩
    = some (.coords (.radius [3])) := by decide +kernel
example : validateRegister exDev ⟨3, [[0, 0, 0], [6, 8, 0]], none⟩ = some .dimension := by decide +kernel
/-- four atoms on six traps exceed the filling of one half -/
example : validateRegister exDev ⟨2, [[0, 0], [5, 0], [0, 5], [5, 5]], some exLayout⟩
    = some (.filling 4 3) := by decide +kernel
/-- identical atoms are rejected even when the minimum distance is zero -/
example : validateRegister { exDev with minDist := 0 } ⟨2, [[1, 1], [1, 1]], none⟩
    = some (.coords (.distance [(0, 1)])) := by decide +kernel

def exParams : DevParams :=
  { virtualDev := true, dimensions := 2, rydbergLevel := 60, minAtomDistance := some 0,
    maxAtomNum := none, maxRadialDistance := none, maxSequenceDuration := none, maxRuns := none,
    minLayoutTraps := some 1, maxLayoutTraps := none, maxLayoutFilling := 1 / 2,
    optimalLayoutFilling := none, supportsSlmMask := true, channels := [⟨false, true⟩],
    dmms := [⟨false, true⟩], channelIds := none, coeffXYIsFloat := false, layouts := [] }

example : mkDevice exParams = none := by decide +kernel
example : ValidParams exParams := (device_params_ok exParams).mp (by decide +kernel)
/-- the same parameters cannot make a physical `Device`: limits undefined, virtual channels -/
example : mkDevice { exParams with virtualDev := false } = some (.noneNotAllowed "max_atom_num") := by
  decide +kernel
example : mkDevice { exParams with maxLayoutFilling := 3 / 2 } = some .maxFilling := by decide +kernel

end C12
end Pulser
