/-
  C17 — Devices, registers, layouts, noise models, configs, results round-trip.

  Only property theorems (and their non-vacuity examples) live here; helper lemmas are in
  Proofs/Codec.lean, the model in PulserModel/Codec.lean, and the tables the theorems are
  instantiated with in PulserModel/Generated/Fields.lean — *regenerated from the live code on
  every run* by harness/tables_c17.py, so every `decide` below is re-checked against what the
  source says now.

  What is carried by theorems (table-driven core): channels (all four kinds, with EOM), devices
  (physical and virtual, with DMM, calibrated layouts, default noise model), layouts; key-level
  schema validity; "active noise types ⇔ parameters set"; NoiseModel ⇄ SimConfig.
  What is not: value-level schema constraints, registers, detuning maps, emulation configs,
  results, float rounding of the µK→K conversion, and the aliasing clause — correspondence and
  monitor only (see `uncovered_clauses` in the evidence).
-/
import Proofs.Codec
import PulserModel.Generated.Fields
namespace Pulser
namespace C17
open Codec

/-! ### The codec theorem, for arbitrary tables -/

/-- **Round trip** ("serialise … and deserialise to objects equal to the originals in every
field"), for *any* class whose tables satisfy the decidable side condition `TablesOk`:
encoding a record (optional fields at their default are dropped, nested values go through their
own codec) and decoding it (absent keys fall back to the decoder's default) gives the record back.
`ex` lists optional fields exempt from the same-default rule (known findings); the theorem then
only speaks about records in which such a field is not at its elided value. -/
theorem codec_roundtrip (T : Tables) (ex : List String) (sub : String → Sub) (r : Record)
    (hT : TablesOk T ex) (W : WellTyped T r) (A : AvoidsExempt T ex r) (S : SubOk sub r) :
    decode T sub (encode T sub r) = some r :=
  roundtrip sub hT W A S

/-- **Schema validity, key level** ("serialise to schema-valid JSON"): every key written is a
`property` of the matching schema definition and every `required` key is written.
(Value-level constraints — types, `const`, nullability — are checked by `jsonschema` in the
correspondence run, not here.) -/
theorem codec_schema_keys (T : Tables) (ex : List String) (sub : String → Sub) (r : Record)
    (hT : TablesOk T ex) (W : WellTyped T r) :
    (∀ k ∈ (encode T sub r).keys, k ∈ T.schemaProps) ∧
    (∀ k ∈ T.schemaRequired, k ∈ (encode T sub r).keys) := by
  have F := tablesFacts hT
  exact ⟨fun k hk => F.emitted k (encode_keys_subset sub W k hk),
         fun k hk => always_subset_encode_keys sub W k (F.schemaReq k hk)⟩

/-! ### The side conditions, re-checked against the live code on every run -/

/-- The one evaluation of the live tables: `Device`, `VirtualDevice`, `RegisterLayout`, the four
channel classes with the decoder's `basis` / `bottom_detuning` dispatch, and the EOM.  (One
evaluation rather than one per class: the kernel's dearest step is turning a string literal into
its bytes, and the classes share most field names.) -/
theorem device_tables_ok : deviceTablesOk Generated.devices [] = true := by
  decide +kernel

/-- All channel classes are fine and the decoder's `basis` / `bottom_detuning` dispatch picks the
class that was encoded. -/
theorem channel_tables_ok : channelTablesOk Generated.channels = true :=
  (deviceFacts device_tables_ok).chans

/-- Every optional field of a `Rydberg` channel has a default, encoder and decoder use the same
one, the decoder never insists on a key the encoder may drop, emitted keys ⊆ schema properties,
schema `required` ⊆ always-emitted keys. -/
theorem tables_ok_rydberg : TablesOk Generated.rydberg :=
  ((channelFacts channel_tables_ok).classes _ (by simp [Generated.channels])).1
theorem tables_ok_raman : TablesOk Generated.raman :=
  ((channelFacts channel_tables_ok).classes _ (by simp [Generated.channels])).1
theorem tables_ok_microwave : TablesOk Generated.microwave :=
  ((channelFacts channel_tables_ok).classes _ (by simp [Generated.channels])).1
theorem tables_ok_dmm : TablesOk Generated.dmm :=
  ((channelFacts channel_tables_ok).classes _ (by simp [Generated.channels])).1
theorem tables_ok_eom : TablesOk Generated.eom := (channelFacts channel_tables_ok).eom
theorem tables_ok_layout : TablesOk Generated.layout := (deviceFacts device_tables_ok).layout
theorem tables_ok_device : TablesOk Generated.device := (deviceFacts device_tables_ok).physical

/-- `VirtualDevice` satisfies the side condition without exemption (since the repair of finding
C17-F1 an empty `dmm_objects` is written out instead of being dropped in favour of the decoder's
class default `(DMM(),)`; `empty_dmm_counterexample` below keeps the shape of that defect). -/
theorem tables_ok_virtual_device : TablesOk Generated.virtualDevice :=
  (deviceFacts device_tables_ok).virtual

/-- `_PARAM_TO_NOISE_TYPE` inverts `_NOISE_TYPE_PARAMS`, `leakage` is governed by `with_leakage`
alone, `_DIFF_NOISE_PARAMS` is injective and collision-free. -/
theorem noise_tables_ok : NoiseTablesOk Generated.noise := by decide +kernel

/-! ### Channels, layouts, devices of the live code -/

/-- **Channels** of every kind (Rydberg with or without EOM, Raman, Microwave, DMM) round-trip. -/
theorem channel_roundtrip {T : Tables} (hT : T ∈ Generated.channels.classes) {r : Record}
    (R : ChannelRecOk Generated.channels T r) :
    (channelSub Generated.channels).Good (.obj ((classKey, .str T.cls) :: r)) :=
  channelSub_good channel_tables_ok hT R

/-- **Layouts** round-trip. -/
theorem layout_roundtrip {l : Record} (W : WellTyped Generated.layout l) :
    (layoutSub Generated.devices).Good (.obj l) :=
  recSub_good tables_ok_layout W (avoidsExempt_nil _ l) (subOk_id l)

/-- **Physical devices** (channels, EOM, DMM, calibrated layouts, default noise model) round-trip,
for any codec `noise` of the default noise model that round-trips on the model at hand. -/
theorem device_roundtrip_physical (noise : Sub) {r : Record}
    (R : DeviceRecOk Generated.devices noise Generated.device [] r) :
    (deviceSub Generated.devices noise).Good (.obj ((classKey, .str "Device") :: r)) :=
  deviceSub_good_physical device_tables_ok noise R

/-- **Virtual devices** (with or without DMM channels) round-trip. -/
theorem device_roundtrip_virtual (noise : Sub) {r : Record}
    (R : DeviceRecOk Generated.devices noise Generated.virtualDevice [] r) :
    (deviceSub Generated.devices noise).Good (.obj ((classKey, .str "VirtualDevice") :: r)) :=
  deviceSub_good_virtual device_tables_ok noise R

/-! ### Noise model -/

/-- **A noise model's active types are exactly those whose parameters were set**: a type is in
`noise_types` iff one of the parameters listed for it in `_NOISE_TYPE_PARAMS` was given a truthy
value. -/
theorem noise_types_iff_params (N : NoiseTables) (hN : NoiseTablesOk N) (args : Record) (t : String) :
    t ∈ activeTypes N args ↔ ∃ p ∈ N.paramsOf t, ∃ v, (p, v) ∈ args ∧ v.truthy = true := by
  have F := noiseFacts hN
  rw [mem_activeTypes]
  constructor
  · rintro ⟨kv, hm, htr, hl⟩
    exact ⟨kv.1, (paramType_iff F kv.1 t).mp hl, kv.2, hm, htr⟩
  · rintro ⟨p, hp, v, hm, htr⟩
    exact ⟨(p, v), hm, htr, (paramType_iff F p t).mpr hp⟩

/-- The same for the live tables. -/
theorem noise_types_iff_params_live (args : Record) (t : String) :
    t ∈ activeTypes Generated.noise args ↔
      ∃ p ∈ Generated.noise.paramsOf t, ∃ v, (p, v) ∈ args ∧ v.truthy = true :=
  noise_types_iff_params _ noise_tables_ok args t

/-- **NoiseModel → SimConfig → NoiseModel preserves the active noise types and every relevant
parameter** (over ℚ: the float rounding of `temperature / 1e6 * 1e6` is not modelled). -/
theorem simconfig_noise_roundtrip (N : NoiseTables) (hN : NoiseTablesOk N) (vals : String → Value)
    (b : Bool) (hb : vals "with_leakage" = .bool b) :
    let nm := noiseInit N (argsOf N vals)
    let nm' := simToNoise N (simFromNoise N nm)
    nm'.get? "noise_types" = nm.get? "noise_types" ∧
    ∀ p ∈ N.params, noiseRelevant N nm p = true → nm'.get? p = nm.get? p := by
  have F := noiseFacts hN
  exact ⟨sim_types_preserved vals F, fun p hp hr => sim_param_preserved vals F hb hp hr⟩

theorem simconfig_noise_roundtrip_live (vals : String → Value) (b : Bool)
    (hb : vals "with_leakage" = .bool b) :
    let nm := noiseInit Generated.noise (argsOf Generated.noise vals)
    let nm' := simToNoise Generated.noise (simFromNoise Generated.noise nm)
    nm'.get? "noise_types" = nm.get? "noise_types" ∧
    ∀ p ∈ Generated.noise.params, noiseRelevant Generated.noise nm p = true →
      nm'.get? p = nm.get? p :=
  simconfig_noise_roundtrip _ noise_tables_ok vals b hb

/-- **NoiseModel → JSON → NoiseModel** returns the instance (`noise_types` and every stored
parameter), provided every parameter that no active noise type uses is unset.
Without that proviso the statement is false on the code as it is — see
`noise_irrelevant_param_counterexample` (finding "irrelevant-param"). -/
theorem noise_roundtrip (N : NoiseTables) (hN : NoiseTablesOk N) (vals : String → Value)
    (b : Bool) (hb : vals "with_leakage" = .bool b)
    (rs os : List Value) (hr : vals "eff_noise_rates" = .list rs) (ho : vals "eff_noise_opers" = .list os)
    (hlen : rs.length = os.length)
    (hclean : ∀ p ∈ N.params, special p = false →
      noiseRelevant N (noiseInit N (argsOf N vals)) p = false →
      normVal N p (vals p) = normVal N p (N.dfl p)) :
    noiseDecode N (noiseEncode (noiseInit N (argsOf N vals))) = noiseInit N (argsOf N vals) :=
  noise_json_roundtrip vals (noiseFacts hN) hb hr ho hlen hclean

/-- … hence such a noise model is a good `default_noise_model` for the device theorems. -/
theorem noise_sub_good (N : NoiseTables) (hN : NoiseTablesOk N) (vals : String → Value)
    (b : Bool) (hb : vals "with_leakage" = .bool b)
    (rs os : List Value) (hr : vals "eff_noise_rates" = .list rs) (ho : vals "eff_noise_opers" = .list os)
    (hlen : rs.length = os.length)
    (hclean : ∀ p ∈ N.params, special p = false →
      noiseRelevant N (noiseInit N (argsOf N vals)) p = false →
      normVal N p (vals p) = normVal N p (N.dfl p)) :
    (noiseSub N).Good (.obj (noiseInit N (argsOf N vals))) :=
  congrArg (fun nm => some (Value.obj nm)) (noise_roundtrip N hN vals b hb rs os hr ho hlen hclean)

/-- A frozen copy of the tables of the noise model (the live ones are `Generated.noise`). -/
def frozenNoise : NoiseTables where
  typeParams := [("leakage", ["with_leakage"]), ("doppler", ["temperature"]),
    ("amplitude", ["laser_waist", "amp_sigma"]), ("SPAM", ["p_false_pos", "p_false_neg", "state_prep_error"]),
    ("dephasing", ["dephasing_rate", "hyperfine_dephasing_rate"]), ("relaxation", ["relaxation_rate"]),
    ("depolarizing", ["depolarizing_rate"]), ("eff_noise", ["eff_noise_rates", "eff_noise_opers"])]
  paramType := [("with_leakage", "leakage"), ("temperature", "doppler"), ("laser_waist", "amplitude"),
    ("amp_sigma", "amplitude"), ("p_false_pos", "SPAM"), ("p_false_neg", "SPAM"), ("state_prep_error", "SPAM"),
    ("dephasing_rate", "dephasing"), ("hyperfine_dephasing_rate", "dephasing"),
    ("relaxation_rate", "relaxation"), ("depolarizing_rate", "depolarizing"),
    ("eff_noise_rates", "eff_noise"), ("eff_noise_opers", "eff_noise")]
  zeroed := ["amp_sigma", "dephasing_rate", "depolarizing_rate", "hyperfine_dephasing_rate", "p_false_neg",
    "p_false_pos", "relaxation_rate", "state_prep_error", "temperature"]
  params := ["runs", "samples_per_run", "state_prep_error", "p_false_pos", "p_false_neg", "temperature",
    "laser_waist", "amp_sigma", "relaxation_rate", "dephasing_rate", "hyperfine_dephasing_rate",
    "depolarizing_rate", "eff_noise_rates", "eff_noise_opers", "with_leakage"]
  defaults := [("eff_noise_rates", .list []), ("eff_noise_opers", .list []), ("with_leakage", .bool false)]
  simRename := [("noise_types", "noise"), ("state_prep_error", "eta"), ("p_false_pos", "epsilon"),
    ("p_false_neg", "epsilon_prime")]

namespace DCheck
/-- The hypotheses of the device theorems, evaluated on a tagged device value. -/
def deviceDom (v : Value) : Bool :=
  match v with
  | .obj ((ck, .str cls) :: r) =>
    ck == classKey &&
    (if cls = "VirtualDevice" then
       deviceRecOkB Generated.devices (noiseSub Generated.noise) Generated.virtualDevice [] r
     else if cls = "Device" then
       deviceRecOkB Generated.devices (noiseSub Generated.noise) Generated.device [] r
     else false)
  | _ => false
end DCheck

/-! ### Non-vacuity: concrete objects meet the hypotheses

The example records are the translator's probe objects (`Generated.ex…`), regenerated with the
tables, so they follow the live field lists. -/

/-- A Rydberg channel with an EOM is in the theorem's domain … -/
example : channelValOkB Generated.channels Generated.exRydberg = true := by decide +kernel

/-- … and so it round-trips (directly evaluated). -/
example : (channelSub Generated.channels).dec ((channelSub Generated.channels).enc Generated.exRydberg)
    = some Generated.exRydberg := by decide +kernel

example : channelValOkB Generated.channels Generated.exDmm = true := by decide +kernel

/-- A virtual device with three channels (one with EOM), two DMMs and a default noise model. -/
example : DCheck.deviceDom Generated.exVirtualDevice = true := by decide +kernel

/-- A physical device with calibrated layouts. -/
example : DCheck.deviceDom Generated.exDevice = true := by decide +kernel

/-- `NoiseModel(temperature=50., runs=15, samples_per_run=5, p_false_pos=0.01)`. -/
def exNoiseVals (p : String) : Value :=
  if p = "temperature" then .num 50 else if p = "runs" then .num 15 else if p = "samples_per_run" then .num 5
  else if p = "p_false_pos" then .num (mkRat 1 100) else frozenNoise.dfl p

example : activeTypes frozenNoise (argsOf frozenNoise exNoiseVals) = ["SPAM", "doppler"] := by
  decide +kernel

example : noiseDecode frozenNoise (noiseEncode (noiseInit frozenNoise (argsOf frozenNoise exNoiseVals)))
    = noiseInit frozenNoise (argsOf frozenNoise exNoiseVals) := by decide +kernel

/-! ### The provisos are necessary: counterexamples on frozen copies of the tables
(frozen so that a later fix of the code does not turn a documented finding into a build failure) -/

/-- The same-default rule of `TablesOk` is necessary.  A one-field class whose encoder drops the
field when it is *empty* while the decoder falls back to a *non-empty* default — the shape
`VirtualDevice.dmm_objects` had before the repair of finding C17-F1 — does not round-trip. -/
def dmmShape : Tables where
  cls := "V"
  fields := [{ name := "dmm_objects", init := true, dflt := some (.list [.str "DMM()"]) }]
  optional := ["dmm_objects"]
  encSkip := []
  encOverride := [("dmm_objects", .list [])]
  consts := []
  decDefault := [("dmm_objects", .list [.str "DMM()"])]
  decRequired := []
  schemaProps := ["dmm_objects"]
  schemaRequired := []

theorem empty_dmm_counterexample :
    ¬ TablesOk dmmShape [] ∧ TablesOk dmmShape ["dmm_objects"] ∧
    decode dmmShape (fun _ => Sub.id) (encode dmmShape (fun _ => Sub.id) [("dmm_objects", .list [])])
      = some [("dmm_objects", .list [.str "DMM()"])] := by decide +kernel

/-- `NoiseModel(runs=10)`: no noise type is active, `runs` is stored all the same. -/
def runsOnly (p : String) : Value := if p = "runs" then .num 10 else frozenNoise.dfl p

/-- The proviso of `noise_roundtrip` is necessary: `NoiseModel(runs=10)` is accepted (with a
warning) and keeps `runs = 10`, but the decoder only passes the relevant parameters, so the
decoded instance has `runs = None`. -/
theorem noise_irrelevant_param_counterexample :
    NoiseTablesOk frozenNoise ∧
    (noiseInit frozenNoise (argsOf frozenNoise runsOnly)).get? "runs" = some (.num 10) ∧
    (noiseDecode frozenNoise (noiseEncode (noiseInit frozenNoise (argsOf frozenNoise runsOnly)))).get? "runs"
      = some .null := by decide +kernel

/-- `WellTyped.skipped` is necessary: a field the encoder never writes (the shape of
`Device.short_description`) comes back as the decoder's fallback. -/
def skippedShape : Tables where
  cls := "D"
  fields := [{ name := "short_description", init := true, dflt := some (.str "") }]
  optional := []
  encSkip := ["short_description"]
  encOverride := []
  consts := []
  decDefault := [("short_description", .str "")]
  decRequired := []
  schemaProps := []
  schemaRequired := []

theorem skipped_field_counterexample :
    TablesOk skippedShape ∧
    decode skippedShape (fun _ => Sub.id)
      (encode skippedShape (fun _ => Sub.id) [("short_description", .str "A device.")])
      = some [("short_description", .str "")] := by decide +kernel

end C17
end Pulser
