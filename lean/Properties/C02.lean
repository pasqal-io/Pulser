/-
  C02 — Channel timelines are gap-free, non-overlapping and clock-aligned.

  Model: PulserModel/{Schedule,Sequence}.lean (mutation-order-faithful `stepRaw`).
  Reachability: any finite list of API calls applied to a fresh sequence; a call
  that raises leaves whatever the Python object would be left with, and the
  history goes on from there (`runEv`: calls and oracle answers).
-/
import Proofs.SeqInv
import Proofs.TargetsInv
namespace Pulser
namespace C02

/-- States reachable from a fresh sequence by any finite history of API calls, with oracle
answers (fall times of scheduler-made detuned-delay pulses, any values) arriving at any time. -/
def Reach (dev : Device) (nQ : Nat) (s : SeqState) : Prop :=
  ∃ evs : List Ev, s = runEv (SeqState.init dev nQ) evs

/-- A plain call history (no oracle answer needed) is a history. -/
theorem Reach.of_run (dev : Device) (nQ : Nat) (ops : List Op) :
    Reach dev nQ (run (SeqState.init dev nQ) ops) :=
  ⟨ops.map Ev.call, (runEv_calls _ ops).symm⟩

/-- **Timeline invariant.**  In every reachable state, on every channel: the
first instruction is the initial target `(-1, 0)`; consecutive instructions
tile the time axis (`tiᵢ₊₁ = tfᵢ`, `ti ≤ tf`); every boundary is a multiple of
the clock period; a pulse occupies exactly its duration (which is at least the
minimum duration); a delay or a non-zero retarget lasts at least the minimum
duration; targets only change at target instructions. -/
theorem timeline_inv (dev : Device) (nQ : Nat) (hd : DevOk dev) (s : SeqState)
    (hr : Reach dev nQ s) : ∀ c ∈ s.chans, ChanInv dev.maxSeqDur c := by
  obtain ⟨ops, rfl⟩ := hr
  have h0 : SeqInv (SeqState.init dev nQ) := SeqState.init_all dev nQ
  have h := runEv_SG (s := SeqState.init dev nQ) hd h0 ops
  intro c hc
  have := h.1 c hc
  rw [h.2.1] at this
  exact this

/-- The invariant in index form (forward order of the instruction list). -/
theorem timeline_tiles {ms : Option Nat} {c : ChanState} (h : ChanInv ms c) :
    (∀ (h0 : 0 < c.slots.length), InitSlot c.slots[0]) ∧
    ∀ (i : Nat) (hi : i + 1 < c.slots.length),
      SlotOk (c.ctx ms) (c.slots[i]'(by omega)) (c.slots[i + 1]) := by
  refine ⟨fun h0 => ?_, fun i hi => InvR_adjacent h.2 (pre := c.slots.take i) (post := c.slots.drop (i + 2)) ?_⟩
  · have hs : c.slots[0] :: c.slots.drop 1 = c.slots := List.getElem_cons_drop h0
    exact InvR_suffix (c.slots.drop 1).reverse [c.slots[0]] (by rw [← List.reverse_cons, hs]; exact h.2)
  · rw [List.getElem_cons_drop (by omega), List.getElem_cons_drop (by omega), List.take_append_drop]

/-- Every boundary is a non-negative multiple of the clock period. -/
theorem boundaries_clock_aligned {ms : Option Nat} {c : ChanState} (h : ChanInv ms c) :
    ∀ (i : Nat) (hi : i < c.slots.length), (c.cfg.clock : Int) ∣ c.slots[i].tf ∧ 0 ≤ c.slots[i].tf := by
  obtain ⟨t0, t1⟩ := timeline_tiles h
  intro i
  induction i with
  | zero =>
    intro hi
    obtain ⟨_, _, h3⟩ := t0 hi
    rw [h3]; exact ⟨Int.dvd_zero _, Int.le_refl _⟩
  | succ k ih =>
    intro hi
    obtain ⟨e1, e2, e3, _⟩ := t1 k hi
    exact ⟨e3, Int.le_trans (e1 ▸ (ih (by omega)).2) e2⟩

/-- **Instruction times never move**: whatever a call does (including raising),
every channel keeps its position and name, and its previous instruction list is
a prefix of the new one. -/
theorem append_only (s : SeqState) (hd : DevOk s.dev) (hi : SeqInv s) (op : Op) :
    ∀ (i : Nat) (c : ChanState), s.chans[i]? = some c →
      ∃ c', (stepRaw s op).st.chans[i]? = some c' ∧ c'.name = c.name ∧ c.slots <+: c'.slots := by
  intro i c hc
  obtain ⟨c', h1, h2⟩ := (stepRaw_RG hd hi op).2.2.2 i c hc
  exact ⟨c', h1, h2.2.1, h2.2.2.1⟩

/-- The same over whole histories. -/
theorem append_only_run (s : SeqState) (hd : DevOk s.dev) (hi : SeqInv s) (ops : List Ev) :
    ∀ (i : Nat) (c : ChanState), s.chans[i]? = some c →
      ∃ c', (runEv s ops).chans[i]? = some c' ∧ c'.name = c.name ∧ c.slots <+: c'.slots := by
  intro i c hc
  obtain ⟨c', h1, h2⟩ := (runEv_SG hd hi ops).2.2.2 i c hc
  exact ⟨c', h1, h2.2.1, h2.2.2.1⟩

/-- The reported duration of a channel is the end of its last instruction. -/
theorem duration_eq_last_tf (c : ChanState) (last : Slot) (h : c.last = .ok last) :
    c.getDuration false = last.tf :=
  getDuration_false_last h

/-- ... and the duration of an empty schedule is 0. -/
theorem duration_empty (c : ChanState) (h : c.slots = []) (f : Bool) : c.getDuration f = 0 := by
  unfold ChanState.getDuration; rw [h]; rfl

/-- The sequence duration is an upper bound of, and attained by, the channel durations. -/
theorem seq_duration_is_max (s : SeqState) (f : Bool) :
    (∀ c ∈ s.chans, c.getDuration f ≤ maxList 0 (s.chans.map (·.getDuration f))) ∧
    (maxList 0 (s.chans.map (·.getDuration f)) = 0 ∨
      ∃ c ∈ s.chans, c.getDuration f = maxList 0 (s.chans.map (·.getDuration f))) := by
  refine ⟨fun c hc => le_maxList_of_mem (List.mem_map_of_mem hc) 0, ?_⟩
  rcases maxList_mem 0 (s.chans.map (·.getDuration f)) with k3 | k3
  · exact .inl k3
  · obtain ⟨c, hc, he⟩ := List.mem_map.mp k3
    exact .inr ⟨c, hc, he⟩

/-- **Every instruction acts on atoms of the register**, in every reachable state: target lists only
come from the register itself (global channels), from a validated `target` / initial target, or are
copied from the previous instruction of the channel. -/
theorem targets_in_register (dev : Device) (nQ : Nat) (hd : DevOk dev) (s : SeqState)
    (hr : Reach dev nQ s) : ∀ c ∈ s.chans, ∀ sl ∈ c.slots, ∀ q ∈ sl.targets, q < nQ := by
  obtain ⟨evs, rfl⟩ := hr
  have h0 : SeqInv (SeqState.init dev nQ) := SeqState.init_all dev nQ
  have ht := runEv_TG (s := SeqState.init dev nQ) hd h0 rfl
    (SeqState.init_all dev nQ) evs
  intro c hc sl hsl q hq
  exact ht c hc sl.targets (List.mem_map_of_mem hsl) q hq

/-! ### Non-vacuity: a concrete device and history meet the hypotheses -/

def exCfg : ChanCfg := { clock := 4, minDur := 16, rise := 120, pjt := 240, maxDur := some 1000 }
def exDev : Device := { chans := [exCfg], dmms := [], reusable := false, maxSeqDur := none }

example : DevOk exDev := by unfold DevOk; decide

/-- A reachable state with a pulse, an automatically inserted phase-jump delay and a second pulse. -/
def exOps : List Op :=
  [ .declare (.user 0) 0 none,
    .add { dur := 101, fallStd := 200, sum := {} } (.user 0) (some .minDelay),
    .add { dur := 52, phase := 1, sum := {} } (.user 0) (some .minDelay) ]

example : ((run (SeqState.init exDev 2) exOps).chans.map (·.slots.map fun s => (s.ti, s.tf))) =
    [[(-1, 0), (0, 104), (104, 544), (544, 596)]] := by decide +kernel

end C02
end Pulser
