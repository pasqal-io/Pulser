/-
  C20 — Observables and results are correct functions of the emulated state.   (PARTIAL)

  Decided here (over exact rationals, model `PulserModel/Measure.lean`):
    * the `Results` store: times strictly ascending, one value per time, retrievable by
      observable or tag, a second value at the same time raises           (§4 of the model)
    * which times an observable is evaluated at: the documented rule, the rule this tree
      implements, and exactly where they differ (finding F8)                         (§5)
    * `from_operator_repr` = documented tensor-product construction, entry by entry;
      composition / linearity laws of the matrix model                             (§8, §9)
    * the default observables are their definitions: bitstring probabilities, pure = mixed,
      occupation, energy second moment and variance on pure and mixed states          (§10)
    * `QutipState.overlap` of two kets is `|⟨a|b⟩|²`, symmetric, and agrees with the ket /
      density-matrix branch on pure states                                            (§10)

  NOT decided by any theorem (smoke differential in the monitor, labelled a test):
  that the V2 backend hands the observables the right state at the right time — that is a
  statement about QuTiP's ODE integrators on float64.

  Only property theorems and their non-vacuity examples live here; lemmas are in
  Proofs/Measure.lean.
-/
import Proofs.Measure
namespace Pulser
namespace C20
open Measure

/-! ## Results store -/

/-- **Clause "Results hold one value per evaluation time, in ascending order".**  After any
history of store calls (including calls that raise) on a fresh `Results`, every observable's
list of times is strictly ascending (so duplicate-free) and has exactly one value per time. -/
theorem store_invariant (reqs : List Req) (u : Nat) :
    (getTimes (runStore {} reqs) u).Pairwise (· < ·) ∧
    (getTimes (runStore {} reqs) u).length = (valsOf (runStore {} reqs) u).length :=
  runStore_inv reqs {} storeInv_empty u

/-- **Clause "retrievable by observable or tag".**  A value stored successfully is returned
by `get_result` for the observable and is found under its tag ... -/
theorem store_retrievable (reqs : List Req) (r : Req)
    (h : (storeRaw (runStore {} reqs) r.uuid r.tag r.time r.value).err = none) :
    let s' := (storeRaw (runStore {} reqs) r.uuid r.tag r.time r.value).st
    getResult s' r.uuid r.time = .ok r.value ∧ findByObs s' r.uuid = .ok r.uuid ∧
      findByTag s' r.tag = .ok r.uuid :=
  store_get _ (runStore_inv reqs {} storeInv_empty) r.uuid r.tag r.time r.value h

/-- ... and stays retrievable, unchanged, whatever is stored (or fails to be stored) later. -/
theorem store_retrievable_later (s : Store) (hs : StoreInv s) (u0 : Nat) (t0 : Rat) (v0 : Int)
    (h0 : getResult s u0 t0 = .ok v0) (later : List Req) :
    getResult (runStore s later) u0 t0 = .ok v0 := by
  induction later generalizing s with
  | nil => exact h0
  | cons r rest ih =>
    exact ih _ (storeRaw_inv s hs r.uuid r.tag r.time r.value)
      (store_preserves s u0 t0 v0 h0 r.uuid r.tag r.time r.value)

/-- The tag keeps pointing at the observable as long as no *other* observable uses the same
tag (which `EmulationConfig.__init__` forbids). -/
theorem store_tag_stable (s : Store) (u tag : Nat) (h : findByTag s tag = .ok u) (r : Req)
    (hr : r.tag ≠ tag ∨ r.uuid = u) :
    findByTag (storeRaw s r.uuid r.tag r.time r.value).st tag = .ok u := by
  unfold findByTag at h ⊢
  rcases storeRaw_tagmap s r.uuid r.tag r.time r.value with e | e
  · rw [e]; exact h
  · rw [e]
    by_cases e2 : tag = r.tag
    · subst e2
      rcases hr with hne | hne
      · exact absurd rfl hne
      · subst hne; simp [alookup_aset]
    · rw [alookup_aset, if_neg e2]; exact h

/-- **Clause "one value per time".**  Storing again at a time that already holds a value
raises `RuntimeError` and leaves the object unchanged. -/
theorem store_twice_raises (s : Store) (r : Req) (tag' : Nat) (v' : Int)
    (h : (storeRaw s r.uuid r.tag r.time r.value).err = none) :
    (storeRaw (storeRaw s r.uuid r.tag r.time r.value).st r.uuid tag' r.time v').err = some .runtime ∧
    (storeRaw (storeRaw s r.uuid r.tag r.time r.value).st r.uuid tag' r.time v').st =
      (storeRaw s r.uuid r.tag r.time r.value).st := by
  have hm : r.time ∈ timesOf (storeRaw s r.uuid r.tag r.time r.value).st r.uuid := by
    rw [storeRaw_timesOf, if_pos ⟨rfl, h⟩]; simp
  rcases storeRaw_cases (storeRaw s r.uuid r.tag r.time r.value).st r.uuid tag' r.time v' with
    ⟨_, e⟩ | ⟨hn, _⟩ | ⟨hn, _⟩
  · rw [e, (storeRaw_ok s r.uuid r.tag r.time r.value h).2.2]
    simp [timesOf, alookup_aset, aset_self]
  · exact absurd hm hn
  · exact absurd hm hn

/-- Non-vacuity: a concrete history with a duplicate and an out-of-order call. -/
example :
    let s := runStore {} [⟨1, 7, 1/4, 10⟩, ⟨1, 7, 1/2, 11⟩, ⟨1, 7, 1/2, 12⟩, ⟨1, 7, 1/8, 13⟩, ⟨2, 9, 1, 5⟩]
    getTimes s 1 = [1/4, 1/2] ∧ getResult s 1 (1/2) = .ok 11 ∧ findByTag s 9 = .ok 2 ∧
      (storeRaw s 1 7 (1/2) 0).err = some .runtime ∧ (storeRaw s 1 7 (1/8) 0).err = some .assertion := by
  decide +kernel

/-! ## Evaluation times of an observable -/

/-- **Clause "one value per *requested* evaluation time" — the documented rule**, written out:
an observable with its own evaluation times is evaluated exactly at those; one without is
evaluated exactly at the configuration's default times.  (This reads the specification
`shouldEvaluateSpec` back; what the code does is `shouldEvaluateCode`, compared with it in
`should_evaluate_counterexample` and `should_evaluate_divergence`.) -/
theorem should_evaluate (dflt : DefaultTimes) (t tol : Rat) :
    (∀ own : List Rat, shouldEvaluateSpec (some own) dflt t tol = inTimes t own tol) ∧
    shouldEvaluateSpec none dflt t tol = isEvaluationTime dflt t tol :=
  ⟨fun _ => rfl, rfl⟩

/-- Membership test used for the matching (`is_time_in_evaluation_times`). -/
theorem in_times_iff (t : Rat) (l : List Rat) (tol : Rat) :
    inTimes t l tol = true ↔ (0 ≤ t ∧ t ≤ 1 ∧ ∃ x ∈ l, absR (x - t) ≤ tol) :=
  inTimes_iff t l tol

/-- **Finding F8.**  The condition written in this tree's `Observable.__call__` is *not* the
documented rule: an observable asked for at `[0.5]` is also evaluated at the default time 1. -/
theorem should_evaluate_counterexample :
    shouldEvaluateCode (some [1/2]) (.times [1]) 1 (timeTol 100) = true ∧
    shouldEvaluateSpec (some [1/2]) (.times [1]) 1 (timeTol 100) = false := by
  decide +kernel

/-- Exactly where the two differ: the tree's rule agrees with the documented one iff the
observable has no times of its own, or the time is not a default time, or it is one of its own. -/
theorem should_evaluate_divergence (own : Option (List Rat)) (dflt : DefaultTimes) (t tol : Rat) :
    shouldEvaluateCode own dflt t tol = shouldEvaluateSpec own dflt t tol ↔
      (own = none ∨ isEvaluationTime dflt t tol = false ∨
        ∃ l, own = some l ∧ inTimes t l tol = true) := by
  cases own with
  | none => simp [shouldEvaluateCode, shouldEvaluateSpec]
  | some l =>
    simp only [shouldEvaluateCode, shouldEvaluateSpec, reduceCtorEq, false_or, Option.some.injEq, exists_eq_left']
    cases inTimes t l tol <;> cases isEvaluationTime dflt t tol <;> decide

/-- The tree's rule only ever *adds* evaluations (no requested value is lost). -/
theorem should_evaluate_code_superset (own : Option (List Rat)) (dflt : DefaultTimes) (t tol : Rat)
    (h : shouldEvaluateSpec own dflt t tol = true) : shouldEvaluateCode own dflt t tol = true := by
  cases own with
  | none => simpa [shouldEvaluateCode, shouldEvaluateSpec] using h
  | some l => simp only [shouldEvaluateCode, shouldEvaluateSpec] at h ⊢; simp [h]

example : shouldEvaluateSpec none (.times [1/4, 1]) (1/4) (timeTol 1000) = true := by decide +kernel
example : shouldEvaluateSpec (some [1/2]) .full (1/4) (timeTol 1000) = false := by decide +kernel

/-! ## Operators from their representation -/

/-- **Clause "operators built from their representation equal the documented tensor-product
construction".**  `from_operator_repr` (Kronecker products of identities and single-qudit
operators, summed with the coefficients) has, at row `σ` and column `τ` (qudit 0 most
significant), the entry `Σ_k c_k Π_i ⟨σᵢ|o_{k,i}|τᵢ⟩`. -/
theorem operator_from_repr (d n : Nat) (fo : FullOp) (σ τ : List Nat)
    (hs : σ.length = n) (ht : τ.length = n) (hds : ∀ a ∈ σ, a < d) (hdt : ∀ a ∈ τ, a < d) :
    (fromRepr d n fo).f (index d σ) (index d τ) = fromReprEntry d n fo σ τ :=
  fromRepr_entry d n fo σ τ hs ht hds hdt

/-- The Kronecker product in index form (`qutip.tensor`). -/
theorem kron_entry (A B : Mat) (i j k l : Nat) (hk : k < B.r) (hl : l < B.c) :
    (Mat.kron A B).f (i * B.r + k) (j * B.c + l) = A.f i j * B.f k l :=
  Measure.kron_entry A B i j k l hk hl

/-- Non-vacuity: `0.5·X₀Y₁ + Z₁` on two qubits, all 16 entries. -/
example :
    let X : QuditOp := [(0, 1, 1), (1, 0, 1)]
    let Y : QuditOp := [(0, 1, ⟨0, -1⟩), (1, 0, ⟨0, 1⟩)]
    let Z : QuditOp := [(0, 0, 1), (1, 1, ⟨-1, 0⟩)]
    let fo : FullOp := [(⟨1/2, 0⟩, [(X, [0]), (Y, [1])]), (1, [(Z, [1])])]
    (fromRepr 2 2 fo).toLists =
      (allStates 2 2).map fun σ => (allStates 2 2).map fun τ => fromReprEntry 2 2 fo σ τ := by
  decide +kernel

/-- **Clause "act as matrices under composition and application".**  `(A @ B)` applied is `A`
applied after `B` (associativity of the entry-wise product). -/
theorem compose_then_apply (A B C : Mat) (i j : Nat) :
    (Mat.mul (Mat.mul A B) C).f i j = (Mat.mul A (Mat.mul B C)).f i j := by
  simp only [Mat.mul]
  -- Σ_k (Σ_l A i l * B l k) * C k j  =  Σ_l A i l * Σ_k B l k * C k j
  simp only [sumTo_mul_right, sumTo_mul_left]
  rw [sumTo_swap]
  apply sumTo_congr; intro l _
  apply sumTo_congr; intro k _
  ring

/-- **Clause "addition, scaling".**  Expectation values are linear in the operator. -/
theorem expect_linear (z : CQ) (A B rho : Mat) (h : B.c = A.c) (hr : B.r = A.r) :
    expectDM (Mat.add (Mat.smul z A) B) rho = z * expectDM A rho + expectDM B rho := by
  rw [expectDM_add _ _ _ (by simpa [Mat.smul] using h) (by simpa [Mat.smul] using hr), expectDM_smul]

/-! ## Observables are their definitions -/

/-- **Clause "sampled bitstrings follow the state's measurement probabilities".**  The
probability `bitstring_probabilities` assigns to a bitstring is the total probability of the
basis states whose qudits are in the one-state exactly where the bitstring has a 1. -/
theorem bitstring_probs_convention (d n one : Nat) (h : one < d) (probs : List Rat)
    (bits : List Bool) (hn : bits.length = n) :
    weightIx d one probs bits = weightSpec d n one probs bits :=
  weightIx_eq_spec d n one h probs bits hn

/-- **Clause "for pure and mixed states".**  For `ρ = |ψ⟩⟨ψ|` the density-matrix formula
`Tr[Aρ]` and the state-vector formula `⟨ψ|A|ψ⟩` agree (energy, expectation, occupation …),
and so do the measurement probabilities. -/
theorem pure_eq_mixed (A psi : Mat) (hc : psi.c = 1) (hr : A.r = psi.r) :
    expectDM A (pureDM psi) = expectKet A psi ∧ probsDM (pureDM psi) = probsKet psi :=
  ⟨expectDM_pure A psi hc hr, probs_pure psi hc⟩

example :
    let psi := ketMat [⟨3/5, 0⟩, ⟨0, 4/5⟩]
    let H : Mat := Mat.ofLists 2 2 [[1, 1], [1, 2]]
    expectKet H psi = ⟨41/25, 0⟩ ∧ probsKet psi = [9/25, 16/25] := by decide +kernel

/-- **Clause "energy Tr[ρH(t)], its second moment Tr[ρH(t)²] and variance … for pure and mixed
states".**  What `EnergySecondMoment.apply` and `EnergyVariance.apply` compute in this tree
(`identity.expect(HρH†)`, minus `hamiltonian.expect(state)²`) *is* `Tr[ρH²]`, resp.
`Tr[ρH²] − Tr[ρH]²`, for every matrix `ρ` (pure or mixed) and every Hermitian `H`. -/
theorem energy_moments_are_definitions (H rho : Mat) (n : Nat) (hHr : H.r = n) (hHc : H.c = n)
    (hRc : rho.c = n) (herm : IsHermitian H n) :
    secondMomentCodeDM H rho = secondMomentDM H rho ∧ varianceCodeDM H rho = varianceDM H rho := by
  have h := secondMomentCode_eq_def H rho n hHr hHc hRc herm
  exact ⟨h, by unfold varianceCodeDM varianceDM; rw [h]⟩

/-- Non-vacuity on the maximally mixed qubit, `H = diag(1, 2)`: `5/2` and `1/4`. -/
example :
    let rho : Mat := Mat.ofLists 2 2 [[⟨1/2, 0⟩, 0], [0, ⟨1/2, 0⟩]]
    let H : Mat := Mat.ofLists 2 2 [[1, 0], [0, ⟨2, 0⟩]]
    secondMomentCodeDM H rho = ⟨5/2, 0⟩ ∧ varianceCodeDM H rho = ⟨1/4, 0⟩ := by
  decide +kernel

/-- **Findings F25/F26 (repaired in the tree; a statement about the OLD formulas).**  What the
tree computed before, `sqrt(Tr[(HρH†)²])`, is not `Tr[ρH²]` on a mixed state: maximally mixed
qubit, `H = diag(1, 2)`: `17/4 ≠ (5/2)²`; likewise the old subtrahend `Tr[ρ HρH†] = 5/4` is not
`Tr[ρH]² = 9/4`. -/
theorem energy_moments_old_counterexample :
    let rho : Mat := Mat.ofLists 2 2 [[⟨1/2, 0⟩, 0], [0, ⟨1/2, 0⟩]]
    let H : Mat := Mat.ofLists 2 2 [[1, 0], [0, ⟨2, 0⟩]]
    secondMomentDM H rho = ⟨5/2, 0⟩ ∧ secondMomentOldSqDM H rho = ⟨17/4, 0⟩ ∧
    energyDM H rho = ⟨3/2, 0⟩ ∧ varSubtrahendOldDM H rho = ⟨5/4, 0⟩ := by
  decide +kernel

/-- **Clause "occupation ⟨n_i⟩ … for pure and mixed states and any qudit dimension".**  The
expectation value of the number operator that `Occupation.apply` builds through
`from_operator_repr` is the definition `Σ_σ p_σ [σᵢ = one]` (`p` = diagonal of the state, qudit
`i` = `i`-th digit in register order), for every matrix `ρ`, every dimension `d` and every
number of qudits `n`. -/
theorem occupation_is_definition (d n one i : Nat) (hi : i < n) (rho : Mat) (hr : rho.r = d ^ n) :
    (expectDM (numberOp d n one [i]) rho).re = occupationSpec d n one (probsDM rho) i := by
  rw [expectDM_numberOp_re d n one [i] (List.forall_mem_singleton.mpr hi) rho hr]
  simp only [occupationSpec, List.all_cons, List.all_nil, Bool.and_true]

/-- … and the number operator itself is the diagonal projector on `σᵢ = one`. -/
theorem number_operator_entries (d n one i : Nat) (hi : i < n) (σ τ : List Nat)
    (hs : σ.length = n) (ht : τ.length = n) (hds : ∀ a ∈ σ, a < d) (hdt : ∀ a ∈ τ, a < d) :
    (numberOp d n one [i]).f (index d σ) (index d τ) = if σ = τ ∧ σ.getD i d = one then 1 else 0 := by
  rw [numberOp_entry d n one [i] (List.forall_mem_singleton.mpr hi) σ τ hs ht hds hdt]
  simp only [List.forall_mem_singleton]

/-- Non-vacuity, and the two-qudit correlation `⟨n_0 n_1⟩ = Σ_σ p_σ [σ₀ = one ∧ σ₁ = one]` on a
two-qutrit instance (PARTIAL: for the correlation matrix the property is claimed on this instance
only; it is the case `S = [0, 1]` of `expectDM_numberOp_ofRat`, the state having a real diagonal). -/
theorem correlation_index_partial :
    let d := 3; let n := 2; let one := 2
    let rho : Mat := Mat.ofLists 9 9 ((List.range 9).map fun i => (List.range 9).map fun j =>
      if i = j then ⟨(i + 1 : Nat) / 45, 0⟩ else ⟨1 / 100, (i : Int) - j⟩)
    (List.range n).map (fun i => expectDM (numberOp d n one [i]) rho) =
      (List.range n).map (fun i => CQ.ofRat (occupationSpec d n one (probsDM rho) i)) ∧
    expectDM (numberOp d n one [0, 1]) rho = CQ.ofRat (correlationSpec d n one (probsDM rho) 0 1) := by
  intro d n one rho
  have hreal : ∀ σ ∈ allStates d n, (rho.f (index d σ) (index d σ)).im = 0 := by decide +kernel
  refine ⟨List.map_congr_left fun i hi => ?_, ?_⟩
  · rw [expectDM_numberOp_ofRat d n one [i] (List.forall_mem_singleton.mpr (List.mem_range.mp hi)) rho rfl hreal]
    simp only [occupationSpec, List.all_cons, List.all_nil, Bool.and_true]
  · rw [expectDM_numberOp_ofRat d n one [0, 1] (by decide) rho rfl hreal]
    simp only [correlationSpec, List.all_cons, List.all_nil, Bool.and_true]

/-! ### `QutipState.overlap` of two pure states -/

/-- **The overlap of two kets is symmetric, non-negative, and is `|⟨a|b⟩|²`** (not the square of
the possibly complex inner product): `overlap(a, b) = overlap(b, a) ≥ 0`, and it is the product
`⟨a|b⟩·⟨b|a⟩`, the quantity `Tr(|a⟩⟨a| |b⟩⟨b|)` that the density-matrix branch computes. -/
theorem overlap_ket (A B : Mat) (h : A.r = B.r) :
    overlapKet A B = overlapKet B A ∧ 0 ≤ overlapKet A B ∧
    innerKet A B * innerKet B A = CQ.ofRat (overlapKet A B) := by
  refine ⟨?_, CQ.normSq_nonneg _, ?_⟩
  · unfold overlapKet; rw [innerKet_conj A B h, CQ.normSq_conj]
  · rw [innerKet_conj A B h]; exact CQ.mul_conj _

/-- Non-vacuity, and the case that separates `|z|²` from `z²`: `(|0⟩+|1⟩)` against `(|0⟩+i|1⟩)`
(unnormalised) has inner product `1 + i`, overlap `2`, while `(1+i)² = 2i` has real part `0`. -/
example : overlapKet (ketMat [1, 1]) (ketMat [1, ⟨0, 1⟩]) = 2 ∧
    (innerKet (ketMat [1, 1]) (ketMat [1, ⟨0, 1⟩]) * innerKet (ketMat [1, 1]) (ketMat [1, ⟨0, 1⟩])).re = 0 := by
  decide +kernel

/-- **Ket against density matrix agrees with ket against ket on pure states**: the branch
`overlap(|a⟩, ρ) = ⟨a|ρ|a⟩` of `QutipState.overlap`, at `ρ = |b⟩⟨b|`, is the ket–ket value
`|⟨a|b⟩|²` (so `Fidelity` does not depend on how a pure state happens to be stored). -/
theorem overlap_ket_dm_pure (A B : Mat) (h : A.r = B.r) (hB : B.c = 1) :
    expectKet (pureDM B) A = CQ.ofRat (overlapKet A B) := by
  rw [expectKet_pureDM A B hB]; exact (overlap_ket A B h).2.2

example : expectKet (pureDM (ketMat [1, ⟨0, 1⟩])) (ketMat [1, 1]) = ⟨2, 0⟩ := by decide +kernel

end C20
end Pulser
