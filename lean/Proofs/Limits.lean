/-
  Proofs.Limits — `validate_pulse` accepts exactly the pulses inside every limit (C01); what
  `_validate_and_adjust_pulse` and `_process_eom_parameters`, which call it, accept.
-/
import PulserModel.Sequence
import Proofs.Timeline
namespace Pulser

theorem overRat_false {m : Option Rat} {x : Rat} : overRat m x = false ↔ ∀ y, m = some y → x ≤ y := by
  unfold overRat
  cases m with
  | none => simp
  | some y => simp [Rat.not_lt]

theorem underRat_false {m : Option Rat} {x : Rat} : underRat m x = false ↔ ∀ y, m = some y → y ≤ x := by
  unfold underRat
  cases m with
  | none => simp
  | some y => simp [Rat.not_lt]

theorem guard_ok {p : Prop} [Decidable p] {e : Err} {x : Except Err Unit} :
    (if p then .error e else x) = .ok () ↔ ¬ p ∧ x = .ok () := by
  by_cases h : p <;> simp [h]

/-- `Channel.validate_pulse` / `DMM.validate_pulse` succeed exactly on the pulses
inside every limit; undefined limits constrain nothing (they do not occur in
`WithinLimits` when `none`). -/
theorem validatePulse_iff (c : ChanState) (σ : PulseSummary) :
    validatePulse c σ = .ok () ↔ WithinLimits c.cfg c.maxW c.sumW σ := by
  -- each test of the chain is one conjunct of `WithinLimits`; the DMM tests sit under `isDmm`
  unfold validatePulse WithinLimits
  rw [guard_ok, guard_ok, guard_ok, guard_ok, Bool.not_eq_true, Bool.not_eq_true, Bool.not_eq_true,
    Bool.not_eq_false', overRat_false, overRat_false]
  cases c.cfg.isDmm with
  | false => simp only [Bool.not_false, ↓reduceIte, and_true, Bool.false_eq_true, false_implies]
  | true =>
    rw [if_neg (show ¬ (!true) = true from Bool.false_ne_true), guard_ok, guard_ok, guard_ok, Bool.not_eq_true, Bool.not_eq_true,
      underRat_false, underRat_false, Rat.not_lt]
    simp only [and_true, forall_const]

/-- **`_validate_and_adjust_pulse`** accepts exactly a pulse that passes `validate_pulse`, whose
duration validates to some `d` and which — if `d` differs from the programmed duration — is
resizable and passes `validate_pulse` as lengthened; the record to schedule is the pulse with
duration `d`, the summary of what is scheduled, and its phase referred to `r`. -/
theorem validateAndAdjust_iff {c : ChanState} {p : PulseIn} {r : Option Rat} {pr : PulseRec} :
    validateAndAdjust c p r = .ok pr ↔
    ∃ d, validatePulse c p.sum = .ok () ∧ validateDuration c.cfg p.dur = .ok d ∧
      (d ≠ p.dur → p.resizable = true ∧ validatePulse c p.sumAdj = .ok ()) ∧
      pr = { dur := d, phase := fmtPhase (p.phase + (match r with | some r => r | none => 0)),
             post := p.post, fallStd := p.fallStd, fallEom := p.fallEom, dd := p.dd, ref := p.ref,
             sum := if d ≠ p.dur then p.sumAdj else p.sum, const := p.const, amp := p.amp,
             det := p.det } := by
  unfold validateAndAdjust
  constructor
  · intro h
    split at h
    · cases h
    · rename_i u hv
      split at h
      · cases h
      · rename_i d hd
        by_cases hres : d ≠ p.dur ∧ (!p.resizable) = true
        · rw [if_pos hres] at h; cases h
        · rw [if_neg hres] at h
          split at h
          · cases h
          · rename_i u2 hv2
            injection h with h
            refine ⟨d, hv, hd, fun hne => ?_, h.symm⟩
            rw [if_pos hne] at hv2
            exact ⟨by simpa [hne] using hres, hv2⟩
  · rintro ⟨d, hv, hd, hadj, rfl⟩
    rw [hv, hd]
    simp only
    by_cases hne : d ≠ p.dur
    · rw [if_neg (by simp [(hadj hne).1])]; simp only [if_pos hne, (hadj hne).2]; rfl
    · rw [if_neg (fun h => hne h.1)]; simp only [if_neg hne]; rfl

theorem validateAndAdjust_ok {c : ChanState} {p : PulseIn} {r : Option Rat} {pr : PulseRec}
    (hc : 0 < c.cfg.clock) (h : validateAndAdjust c p r = .ok pr) :
    (c.cfg.clock ∣ pr.dur ∧ c.cfg.minDur ≤ pr.dur) ∧ PulseLim c.cfg c.maxW c.sumW pr ∧
      WithinLimits c.cfg c.maxW c.sumW p.sum := by
  obtain ⟨d, hv, hd, hv2, rfl⟩ := validateAndAdjust_iff.mp h
  have := validateDuration_ok hc hd
  refine ⟨⟨this.2.2.2.2, Nat.le_trans this.1 this.2.2.1⟩, ⟨fun _ => ?_, this.2.1⟩,
    (validatePulse_iff c p.sum).mp hv⟩
  -- the summary kept is that of the pulse as scheduled
  show WithinLimits c.cfg c.maxW c.sumW (if d ≠ p.dur then p.sumAdj else p.sum)
  by_cases hdd : d ≠ p.dur
  · rw [if_pos hdd]; exact (validatePulse_iff c p.sumAdj).mp (hv2 hdd).2
  · rw [if_neg hdd]; exact (validatePulse_iff c p.sum).mp hv

/-- **`_process_eom_parameters`** accepts exactly a non-negative amplitude whose on-pulse and — for
the option `i` closest to the requested off-detuning — off-pulse pass `validate_pulse`; it returns
that option. -/
theorem processEomParams_iff {c : ChanState} {e : EomIn} {d : Rat} :
    processEomParams c e = .ok d ↔
    ¬ e.amp < 0 ∧ validatePulse c e.onSum = .ok () ∧ ∃ i σ, closestIdx e.opts e.optimal = some i ∧
      e.opts[i]? = some d ∧ e.offSums[i]? = some σ ∧ validatePulse c σ = .ok () := by
  unfold processEomParams
  constructor
  · intro h
    split at h
    · cases h
    rename_i h0
    split at h
    · cases h
    rename_i u hv
    split at h
    · cases h
    rename_i i hc
    split at h
    · rename_i detOff σ ho hs
      split at h
      · cases h
      · rename_i u2 hv2
        cases h
        exact ⟨h0, hv, i, σ, hc, ho, hs, hv2⟩
    · cases h
  · rintro ⟨h0, hv, i, σ, hc, ho, hs, hv2⟩
    rw [if_neg h0, hv, hc]
    simp only [ho, hs, hv2]

end Pulser
