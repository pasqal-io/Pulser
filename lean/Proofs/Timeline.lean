/-
  Proofs.Timeline — the timeline invariant of one channel (`InvR`, `ChanInv`; its slots carry the
  limits of C01, `WithinLimits`, `PulseLim`) and its preservation by every scheduler primitive (C02),
  the "append-only" relation `Ext`, and what `make_next_pulse_slot` returns under the invariant
  (`makeNextPulseSlot_spec`, `addPulse_shape`).
-/
import Proofs.Shape
import Proofs.Duration
namespace Pulser

/-- Declarative "inside every limit of the channel" (C01); `maxW`/`sumW` are the
maximum and the sum of the detuning-map weights of a DMM. -/
def WithinLimits (cfg : ChanCfg) (maxW sumW : Rat) (σ : PulseSummary) : Prop :=
  σ.finite = true ∧
  (∀ m, cfg.maxAmp = some m → σ.maxAmp ≤ m) ∧
  (∀ m, cfg.maxAbsDet = some m → σ.maxAbsDetR ≤ m) ∧
  ¬ (0 < σ.avgAmp ∧ σ.avgAmp < cfg.minAvgAmp) ∧
  (cfg.isDmm = true → σ.maxDetR ≤ 0 ∧ (∀ b, cfg.bottom = some b → b ≤ maxW * σ.minDetR) ∧
    (∀ b, cfg.totalBottom = some b → b ≤ sumW * σ.minDetR))

/-- Limits of a scheduled pulse: user pulses (`ref ≠ 0`) are within the channel limits,
every pulse respects the maximum duration. -/
def PulseLim (cfg : ChanCfg) (maxW sumW : Rat) (p : PulseRec) : Prop :=
  (p.ref ≠ 0 → WithinLimits cfg maxW sumW p.sum) ∧ (∀ m, cfg.maxDur = some m → p.dur ≤ m)

/-- Static context of a channel that the invariants refer to. -/
structure Ctx where
  ms : Option Nat      -- device.max_sequence_duration
  cfg : ChanCfg
  maxW : Rat
  sumW : Rat

def ChanState.ctx (c : ChanState) (ms : Option Nat) : Ctx := ⟨ms, c.cfg, c.maxW, c.sumW⟩

@[simp] theorem ChanState.ctx_cfg (c : ChanState) (ms : Option Nat) : (c.ctx ms).cfg = c.cfg := rfl
@[simp] theorem ChanState.ctx_ms (c : ChanState) (ms : Option Nat) : (c.ctx ms).ms = ms := rfl
@[simp] theorem ChanState.ctx_maxW (c : ChanState) (ms : Option Nat) : (c.ctx ms).maxW = c.maxW := rfl
@[simp] theorem ChanState.ctx_sumW (c : ChanState) (ms : Option Nat) : (c.ctx ms).sumW = c.sumW := rfl

/-- How a slot must relate to the slot before it. -/
def SlotOk (x : Ctx) (prev s : Slot) : Prop :=
  s.ti = prev.tf ∧ s.ti ≤ s.tf ∧ (x.cfg.clock : Int) ∣ s.tf ∧ (∀ m, x.ms = some m → s.tf ≤ (m : Int)) ∧
  match s.kind with
  | .pulse p => s.tf = s.ti + p.dur ∧ x.cfg.minDur ≤ p.dur ∧ s.targets = prev.targets ∧
      PulseLim x.cfg x.maxW x.sumW p
  | .delay => (x.cfg.minDur : Int) ≤ s.tf - s.ti ∧ s.targets = prev.targets
  | .target => s.tf = s.ti ∨ (x.cfg.minDur : Int) ≤ s.tf - s.ti

def InitSlot (s : Slot) : Prop := s.kind = .target ∧ s.ti = -1 ∧ s.tf = 0

/-- Timeline invariant, stated on the *reversed* slot list (head = latest slot). -/
def InvR (x : Ctx) : List Slot → Prop
  | [] => True
  | [s] => InitSlot s
  | s :: prev :: rest => SlotOk x prev s ∧ InvR x (prev :: rest)

def ChanInv (ms : Option Nat) (c : ChanState) : Prop :=
  0 < c.cfg.clock ∧ InvR (c.ctx ms) c.slots.reverse

/-- `c'` extends `c`: same channel, and the old instructions are a prefix of the new. -/
def Ext (c c' : ChanState) : Prop :=
  c'.cfg = c.cfg ∧ c'.name = c.name ∧ c.slots <+: c'.slots ∧ c'.maxW = c.maxW ∧ c'.sumW = c.sumW

theorem Ext.refl (c : ChanState) : Ext c c := ⟨rfl, rfl, List.prefix_refl _, rfl, rfl⟩

theorem Ext.oracle (c : ChanState) (e : DDOracle) : Ext c { c with ddOracle := e } :=
  ⟨rfl, rfl, List.prefix_refl _, rfl, rfl⟩

theorem Ext.trans {a b c : ChanState} (h1 : Ext a b) (h2 : Ext b c) : Ext a c :=
  ⟨h2.1.trans h1.1, h2.2.1.trans h1.2.1, h1.2.2.1.trans h2.2.2.1, h2.2.2.2.1.trans h1.2.2.2.1,
   h2.2.2.2.2.trans h1.2.2.2.2⟩

theorem Ext.ctx {c c' : ChanState} (h : Ext c c') (ms : Option Nat) : c'.ctx ms = c.ctx ms := by
  unfold ChanState.ctx; rw [h.1, h.2.2.2.1, h.2.2.2.2]

theorem InvR_suffix {x : Ctx} (a b : List Slot) (h : InvR x (a ++ b)) : InvR x b := by
  induction a with
  | nil => exact h
  | cons s rest ih =>
    cases hr : rest ++ b with
    | nil => simp at hr; rw [hr.2]; trivial
    | cons t u => rw [List.cons_append, hr] at h; exact ih (hr ▸ h.2)

theorem InvR_adjacent {x : Ctx} {l pre post : List Slot} {a b : Slot} (h : InvR x l.reverse)
    (hs : l = pre ++ a :: b :: post) : SlotOk x a b := by
  rw [hs, List.reverse_append, List.reverse_cons, List.reverse_cons, List.append_assoc,
    List.append_assoc] at h
  exact (InvR_suffix _ _ h).1

theorem InvR_head {x : Ctx} {s : Slot} {rest : List Slot} (h : InvR x (s :: rest)) :
    (x.cfg.clock : Int) ∣ s.tf ∧ 0 ≤ s.tf := by
  induction rest generalizing s with
  | nil => obtain ⟨_, _, h3⟩ := h; rw [h3]; exact ⟨Int.dvd_zero _, Int.le_refl _⟩
  | cons p rest ih =>
    obtain ⟨⟨h1, h2, h3, _⟩, h5⟩ := h
    have := (ih h5).2
    exact ⟨h3, by omega⟩

theorem InvR_pulse {x : Ctx} {l : List Slot} (h : InvR x l) :
    ∀ s ∈ l, ∀ p, s.kind = .pulse p → s.tf = s.ti + p.dur ∧ x.cfg.minDur ≤ p.dur ∧
      PulseLim x.cfg x.maxW x.sumW p ∧ (x.cfg.clock : Int) ∣ s.ti ∧ (x.cfg.clock : Int) ∣ s.tf := by
  induction l with
  | nil => intro s hs; cases hs
  | cons a rest ih =>
    intro s hs p hp
    cases rest with
    | nil =>
      obtain rfl := List.mem_singleton.mp hs
      rw [h.1] at hp; cases hp
    | cons b rest' =>
      obtain ⟨⟨h1, _, h3, _, h4⟩, h5⟩ := h
      rcases List.mem_cons.mp hs with rfl | hh
      · rw [hp] at h4
        exact ⟨h4.1, h4.2.1, h4.2.2.2, h1 ▸ (InvR_head h5).1, h3⟩
      · exact ih h5 s hh p hp

theorem ChanInv_snoc {ms : Option Nat} {c : ChanState} {last x : Slot} (hi : ChanInv ms c)
    (hl : c.last = .ok last)
    (hx : SlotOk (c.ctx ms) last x) : ChanInv ms (c.snoc x) := by
  obtain ⟨rest, hr⟩ := last_ok hl
  refine ⟨hi.1, ?_⟩
  show InvR (c.ctx ms) (c.slots ++ [x]).reverse
  rw [List.reverse_append, hr]
  exact ⟨hx, by have := hi.2; rwa [hr] at this⟩

theorem Ext_snoc (c : ChanState) (x : Slot) : Ext c (c.snoc x) :=
  ⟨rfl, rfl, List.prefix_append _ _, rfl, rfl⟩

theorem ChanInv.last_tf {ms : Option Nat} {c : ChanState} {last : Slot} (hi : ChanInv ms c)
    (hl : c.last = .ok last) : (c.cfg.clock : Int) ∣ last.tf ∧ 0 ≤ last.tf := by
  obtain ⟨rest, hr⟩ := last_ok hl
  exact InvR_head (hr ▸ hi.2)

/-- "Good" step on a channel: keeps the invariant and only extends the timeline. -/
def Good (ms : Option Nat) (c c' : ChanState) : Prop := ChanInv ms c' ∧ Ext c c'

theorem Good.rfl' {ms : Option Nat} {c : ChanState} (h : ChanInv ms c) : Good ms c c := ⟨h, Ext.refl c⟩

theorem Good.trans {ms : Option Nat} {a b c : ChanState} (h1 : Good ms a b) (h2 : Good ms b c) : Good ms a c :=
  ⟨h2.1, h1.2.trans h2.2⟩

theorem le_add_dur (t : Int) (d : Nat) : t ≤ t + d := Int.le_add_of_nonneg_right (Int.natCast_nonneg d)

/-- An instruction from `t` lasting `d` spans at least `m ≤ d`. -/
theorem le_span {m d : Nat} (h : m ≤ d) (t : Int) : (m : Int) ≤ t + d - t :=
  Int.le_sub_left_of_add_le (Int.add_le_add_left (Int.ofNat_le.mpr h) t)

theorem addDelay_inv {ms : Option Nat} {c c' : ChanState} {d : Nat} (hi : ChanInv ms c)
    (h : addDelay ms c d = .ok c') : Good ms c c' := by
  obtain ⟨last, d', k, hl, hv, hb, rfl, hk⟩ := addDelay_shape h
  have hd := validateDuration_ok hi.1 hv
  have hmin : c.cfg.minDur ≤ d' := Nat.le_trans hd.1 hd.2.2.1
  refine ⟨ChanInv_snoc hi hl ⟨rfl, le_add_dur _ _,
    Int.dvd_add (hi.last_tf hl).1 (Int.ofNat_dvd.mpr hd.2.2.2.2), hb, ?_⟩, Ext_snoc _ _⟩
  rcases hk with ⟨rfl, _⟩ | ⟨b, p, _, _, _, hm, rfl⟩
  · exact ⟨le_span hmin _, rfl⟩
  · obtain ⟨hp, href, _⟩ := mkDetunedDelay_spec hm
    exact ⟨by rw [hp], hp ▸ hmin, rfl, fun hne => absurd href hne, hp ▸ hd.2.1⟩

theorem waitForFall_inv {ms : Option Nat} {c c' : ChanState} (hi : ChanInv ms c)
    (h : waitForFall ms c = .ok c') : Good ms c c' := by
  rcases waitForFall_cases h with ⟨rfl, _⟩ | ⟨d, _, _, h⟩
  · exact Good.rfl' hi
  · exact addDelay_inv hi h

/-- A wait that is adjusted only when there is something to wait for (`p`). -/
theorem adjusted_or_zero {c : ChanState} {need : Int} {p : Prop} [Decidable p] {g : Nat}
    (hc : 0 < c.cfg.clock) (hn : ¬ p → need ≤ 0)
    (h : (if p then c.adjust need.toNat else .ok 0) = .ok g) :
    (g = 0 ∨ (c.cfg.minDur ≤ g ∧ c.cfg.clock ∣ g)) ∧ need ≤ g ∧
      (p → c.adjust need.toNat = .ok g) ∧ (¬ p → g = 0) := by
  split at h
  · rename_i hp
    have hd := adjustDuration_ok hc h
    exact ⟨.inr ⟨hd.1, hd.2.2.1⟩, Int.toNat_le.mp hd.2.1, fun _ => h, fun hnp => absurd hp hnp⟩
  · rename_i hp
    injection h with h; subst h
    exact ⟨.inl rfl, hn hp, fun h' => absurd h' hp, fun _ => rfl⟩

theorem retarget_adjusted {c : ChanState} {t : Int} {delta : Nat} (hc : 0 < c.cfg.clock)
    (h : (if retargetDelta c t ≠ 0 then c.adjust (retargetDelta c t).toNat else .ok 0) = .ok delta) :
    (delta = 0 ∨ (c.cfg.minDur ≤ delta ∧ c.cfg.clock ∣ delta)) ∧ retargetDelta c t ≤ delta :=
  have r := adjusted_or_zero hc (fun h0 => Int.le_of_eq (Decidable.of_not_not h0)) h
  ⟨r.1, r.2.1⟩

theorem addTargetTail_inv {ms : Option Nat} {c c' : ChanState} {qs : List Nat} (hi : ChanInv ms c)
    (h : addTargetTail ms c qs = .ok c') : Good ms c c' := by
  obtain ⟨last, delta, hl, hd, hb, rfl⟩ := addTargetTail_shape h
  -- the retarget time is `0` or an adjusted duration: a clock multiple either way
  have hz := (retarget_adjusted hi.1 hd).1
  have hdd : c.cfg.clock ∣ delta := hz.elim (fun h0 => h0 ▸ Nat.dvd_zero _) And.right
  exact ⟨ChanInv_snoc hi hl ⟨rfl, le_add_dur _ _,
    Int.dvd_add (hi.last_tf hl).1 (Int.ofNat_dvd.mpr hdd), hb,
    hz.imp (fun (h0 : delta = 0) => h0 ▸ Int.add_zero _) fun h => le_span h.1 _⟩, Ext_snoc _ _⟩

theorem addTarget_inv {ms : Option Nat} {c : ChanState} {qs : List Nat} (hi : ChanInv ms c) :
    Good ms c (addTarget ms c qs).c := by
  rcases addTarget_cases ms c qs with h | ⟨he, hb, h⟩ | ⟨c1, hw, h | h⟩
  · rw [h]; exact Good.rfl' hi
  · rw [h]
    refine ⟨⟨hi.1, ?_⟩, Ext_snoc _ _⟩
    show InvR (c.ctx ms) (c.slots ++ [_]).reverse
    rw [he]; exact ⟨rfl, rfl, rfl⟩
  · rw [h]; exact waitForFall_inv hi hw
  · have h1 := waitForFall_inv hi hw
    exact h1.trans (addTargetTail_inv h1.1 h)

theorem maxList_ge (x : Int) (l : List Int) : x ≤ maxList x l := by
  unfold maxList
  induction l generalizing x with
  | nil => exact Int.le_refl _
  | cons a l ih => exact Int.le_trans (Int.le_max_left x a) (ih (max x a))

theorem le_maxList_of_mem {b : Int} {l : List Int} (hb : b ∈ l) (x : Int) : b ≤ maxList x l := by
  induction l generalizing x with
  | nil => cases hb
  | cons a rest ih =>
    show b ≤ maxList (max x a) rest
    rcases List.mem_cons.mp hb with rfl | hh
    · exact Int.le_trans (Int.le_max_right x b) (maxList_ge _ rest)
    · exact ih hh _

theorem maxList_mem (x : Int) (l : List Int) : maxList x l = x ∨ maxList x l ∈ l := by
  induction l generalizing x with
  | nil => exact .inl rfl
  | cons a rest ih =>
    show maxList (max x a) rest = x ∨ maxList (max x a) rest ∈ a :: rest
    rcases ih (max x a) with h | h
    · rw [h]
      rcases Int.le_total x a with hxa | hxa
      · exact .inr (by rw [Int.max_eq_right hxa]; exact List.mem_cons_self)
      · exact .inl (Int.max_eq_left hxa)
    · exact .inr (List.mem_cons_of_mem _ h)

theorem findAddDelayChan_ge (r : Nat) (e : Bool) (t : List Nat) (w : Bool) (cur : Int) (l : List Slot) :
    cur ≤ findAddDelayChan r e t w cur l := by
  induction l with
  | nil => exact Int.le_refl _
  | cons op rest ih =>
    unfold findAddDelayChan
    split
    · split
      · exact Int.le_refl _
      · rename_i hlt
        split
        · exact Int.le_of_lt (Int.not_le.mp hlt)
        · exact ih
    · split
      · exact Int.le_refl _
      · exact ih

theorem findAddDelay_ge (others : List ChanState) (t : List Nat) (w : Bool) (t0 : Int) :
    t0 ≤ findAddDelay others t w t0 := by
  unfold findAddDelay
  induction others generalizing t0 with
  | nil => exact Int.le_refl _
  | cons ch rest ih =>
    simp only [List.foldl_cons]
    exact Int.le_trans (findAddDelayChan_ge _ _ _ _ _ _) (ih _)

theorem curMaxOf_ge (others : List ChanState) (last : Slot) (barriers : List Int) (proto : Protocol) :
    last.tf ≤ curMaxOf others last barriers proto ∧
    maxList last.tf barriers ≤ curMaxOf others last barriers proto := by
  unfold curMaxOf
  have h1 := maxList_ge last.tf barriers
  split
  · have h2 := findAddDelay_ge others last.targets (proto == .waitForAll) (maxList last.tf barriers)
    exact ⟨by omega, h2⟩
  · exact ⟨h1, Int.le_refl _⟩

/-- What `make_next_pulse_slot` returns: the pulse slot starts `delay` after the channel's
end, where `delay` is `0` when nothing has to be waited for and otherwise the *adjusted*
(minimum duration, clock) value of the required wait
`max (current_max_t − t0) phase_jump_buffer`. -/
theorem makeNextPulseSlot_spec {ms : Option Nat} {c : ChanState} {others : List ChanState}
    {p : PulseRec} {barriers : List Int} {proto : Protocol} {drift : Option Drift} {blk : Bool}
    {slot last : Slot} (hc : 0 < c.cfg.clock) (hl : c.last = .ok last)
    (h : makeNextPulseSlot ms c others p barriers proto drift blk = .ok slot) :
    ∃ (delay : Nat) (p' : PulseRec),
      slot.ti = last.tf + delay ∧ slot.tf = slot.ti + p.dur ∧ slot.targets = last.targets ∧
      slot.kind = .pulse p' ∧ (p'.dur = p.dur ∧ p'.ref = p.ref ∧ p'.sum = p.sum) ∧
      (delay = 0 ∨ (c.cfg.minDur ≤ delay ∧ c.cfg.clock ∣ delay)) ∧
      (blk = true → ∀ m, ms = some m → slot.tf ≤ (m : Int)) ∧
      -- the required wait, and how `delay` relates to it
      (let need := max (curMaxOf others last barriers proto - last.tf)
          (phaseJumpBuffer c last.tf
            (fmtPhase (correctedPhase p drift (curMaxOf others last barriers proto))) proto)
       (need ≤ 0 → delay = 0) ∧ (0 < need → c.adjust need.toNat = .ok delay) ∧ need ≤ delay) := by
  obtain ⟨delay, ph, hdl, hblk, _, rfl⟩ := makeNextPulseSlot_shape hl h
  obtain ⟨h1, h2, h3, h4⟩ := adjusted_or_zero hc Int.not_lt.mp hdl
  exact ⟨delay, _, rfl, rfl, rfl, rfl, ⟨rfl, rfl, rfl⟩, h1, hblk, fun hn => h4 (Int.not_lt.mpr hn), h3, h2⟩

theorem addDelay_last {ms : Option Nat} {c c' : ChanState} {d : Nat} {last : Slot}
    (hc : 0 < c.cfg.clock) (hl : c.last = .ok last) (h : addDelay ms c d = .ok c') :
    ∃ (x : Slot) (d' : Nat), c'.slots = c.slots ++ [x] ∧ x.ti = last.tf ∧ x.tf = last.tf + d' ∧
      x.targets = last.targets ∧ d ≤ d' ∧ d' < d + c.cfg.clock ∧ c.cfg.clock ∣ d' := by
  obtain ⟨last', d', k, hl', hv, _, rfl, _⟩ := addDelay_shape h
  cases hl.symm.trans hl'
  have hd := validateDuration_ok hc hv
  exact ⟨_, d', rfl, rfl, rfl, rfl, hd.2.2.1, hd.2.2.2.1, hd.2.2.2.2⟩

/-- **`add_pulse`** appends the slot of `make_next_pulse_slot`, after an `add_delay` that fills
the gap up to its start *exactly*: the gap is an adjusted duration already, which `add_delay`
returns unchanged (`validateDuration_idem`). -/
theorem addPulse_shape {ms : Option Nat} {c c' : ChanState} {others : List ChanState}
    {p : PulseRec} {barriers : List Int} {proto : Protocol} {drift : Option Drift}
    (hc : 0 < c.cfg.clock) (h : addPulse ms c others p barriers proto drift = .ok c') :
    ∃ (last slot : Slot) (c1 : ChanState) (x : Slot), c.last = .ok last ∧
      makeNextPulseSlot ms c others p barriers proto drift true = .ok slot ∧
      (c1 = c ∨ ∃ d, addDelay ms c d = .ok c1) ∧
      c1.last = .ok x ∧ x.tf = slot.ti ∧ x.targets = last.targets ∧ c' = c1.snoc slot := by
  obtain ⟨last, slot, c1, hl, hm, hc1, rfl⟩ := addPulse_cases h
  obtain ⟨delay, ph, hdl, _, _, hs⟩ := makeNextPulseSlot_shape hl hm
  have hti : slot.ti = last.tf + delay := by rw [hs]
  obtain ⟨_, _, hp, hz⟩ := adjusted_or_zero hc Int.not_lt.mp hdl
  rcases hc1 with ⟨rfl, hle⟩ | ⟨hlt, had⟩
  · exact ⟨last, slot, c1, last, hl, hm, .inl rfl, hl,
      Int.le_antisymm (hti ▸ le_add_dur _ _) hle, rfl, rfl⟩
  · obtain ⟨last', d', k, hl', hv, _, rfl, _⟩ := addDelay_shape had
    cases hl.symm.trans hl'
    have hdel : (slot.ti - last.tf).toNat = delay := by
      rw [hti, Int.add_comm, Int.add_sub_cancel, Int.toNat_natCast]
    -- there is a gap, so the delay is not `0`: it was adjusted
    have ha := adjustDuration_ok hc (hp (Decidable.byContradiction fun hn => by
      rw [hti, hz hn, Int.natCast_zero, Int.add_zero] at hlt; exact Int.lt_irrefl _ hlt))
    rw [hdel, validateDuration_idem ha.1 ha.2.2.2.2 ha.2.2.1] at hv
    injection hv with hv; subst hv
    exact ⟨last, slot, _, _, hl, hm, .inr ⟨_, had⟩, last_snoc _ _, hti.symm, rfl, rfl⟩

theorem addPulse_inv {ms : Option Nat} {c c' : ChanState} {others : List ChanState}
    {p : PulseRec} {barriers : List Int} {proto : Protocol} {drift : Option Drift}
    (hi : ChanInv ms c) (hp : c.cfg.clock ∣ p.dur ∧ c.cfg.minDur ≤ p.dur)
    (hlim : PulseLim c.cfg c.maxW c.sumW p)
    (h : addPulse ms c others p barriers proto drift = .ok c') : Good ms c c' := by
  obtain ⟨last, slot, c1, x, hl, hm, hc1, hl1, hx, hxt, rfl⟩ := addPulse_shape hi.1 h
  obtain ⟨delay, p', h1, h2, h3, h4, ⟨h5, h5r, h5s⟩, h6, h7, _⟩ := makeNextPulseSlot_spec hi.1 hl hm
  have hg : Good ms c c1 := by
    rcases hc1 with rfl | ⟨d, had⟩
    · exact Good.rfl' hi
    · exact addDelay_inv hi had
  refine ⟨ChanInv_snoc hg.1 hl1 ?_, hg.2.trans (Ext_snoc _ _)⟩
  rw [hg.2.ctx ms]
  refine ⟨hx.symm, h2 ▸ le_add_dur _ _, ?_, h7 rfl, ?_⟩
  · have := (hg.1.last_tf hl1).1
    rw [hg.2.1, hx] at this
    rw [h2]; exact Int.dvd_add this (Int.ofNat_dvd.mpr hp.1)
  · rw [h4]; simp only; rw [h5]
    refine ⟨h2, hp.2, h3.trans hxt.symm, ?_⟩
    unfold PulseLim; rw [h5, h5r, h5s]; exact hlim

/-- Neither the invariant nor `Ext` reads the EOM blocks. -/
theorem Good_eom {ms : Option Nat} {c : ChanState} (hi : ChanInv ms c) (e : List EomBlock) :
    Good ms c { c with eom := e } := ⟨hi, Ext.refl c⟩

theorem mkDetunedDelay_pulseOk {c : ChanState} {d : Nat} {x y : Rat} {p : PulseRec} {d0 : Nat}
    (hc : 0 < c.cfg.clock) (ha : c.adjust d0 = .ok d) (h : mkDetunedDelay c d x y = .ok p) :
    (c.cfg.clock ∣ p.dur ∧ c.cfg.minDur ≤ p.dur) ∧ PulseLim c.cfg c.maxW c.sumW p := by
  have := adjustDuration_ok hc ha
  obtain ⟨hd, href, _⟩ := mkDetunedDelay_spec h
  rw [PulseLim, hd]
  exact ⟨⟨this.2.2.1, this.1⟩, fun hne => absurd href hne, this.2.2.2.2⟩

theorem Wait.good {ms : Option Nat} {c c' : ChanState} (hi : ChanInv ms c) (h : Wait ms c c') :
    Good ms c c' := by
  rcases h with rfl | ⟨d, h⟩ | ⟨d0, d, x, p, ha, hm, h⟩
  · exact Good.rfl' hi
  · exact addDelay_inv hi h
  · have hpk := mkDetunedDelay_pulseOk hi.1 ha hm
    exact addPulse_inv hi hpk.1 hpk.2 h

theorem enableEom_inv {ms : Option Nat} {c : ChanState} {amp detOn detOff : Rat} {sb sw : Bool}
    (hi : ChanInv ms c) : Good ms c (enableEom ms c amp detOn detOff sb sw).c := by
  obtain ⟨c1, c2, w1, w2, h⟩ := enableEom_shape ms c amp detOn detOff sb sw
  have g1 := w1.good hi
  have g2 := g1.trans (w2.good g1.1)
  rcases h with ⟨h, _⟩ | ⟨last, _, h⟩ <;> rw [h]
  · exact g2
  · exact g2.trans (Good_eom g2.1 _)

theorem disableEom_inv {ms : Option Nat} {c : ChanState} {sb : Bool}
    (hi : ChanInv ms c) : Good ms c (disableEom ms c sb).c := by
  rcases disableEom_shape ms c sb with ⟨h, _⟩ | ⟨last, _, w⟩
  · rw [h]; exact Good.rfl' hi
  · have g := Good_eom hi (closeLastBlock c.eom last.tf)
    exact g.trans (w.good g.1)

end Pulser
