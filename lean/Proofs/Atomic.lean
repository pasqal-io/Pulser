/-
  Proofs.Atomic — the state after a call that raises (C09).  `Atomic P s r`: whatever `r` raises among
  the errors `P`, its state is `s`; `stepRaw_atomic` walks `stepRaw` for it, given that `_add` is atomic
  (`addCore_err_cases`: only its post-phase-shift can raise after the pulse was appended).  The error
  class `Err.isSched` of the scheduler's primitives serves `targetCore_atomic`.
-/
import Proofs.Steps
namespace Pulser

theorem withChan_lift_err {s : SeqState} {n : ChName} {f : ChanState → Except Err ChanState}
    (h : (s.withChan n fun c => CRes.lift c (f c)).err.isSome = true) :
    (s.withChan n fun c => CRes.lift c (f c)).st = s := by
  unfold SeqState.withChan at h ⊢
  cases hc : s.getChan n with
  | none => rfl
  | some c =>
    simp only [hc] at h ⊢
    unfold CRes.lift at h ⊢
    cases hf : f c with
    | error e => simp only; exact setChan_self hc
    | ok c' => simp [hf] at h

/-- Errors raised inside the scheduler's primitives (`add_delay`, `wait_for_fall`, `add_target`): the
duration and sequence-length checks, no instruction to extend, a missing oracle answer. -/
def Err.isSched : Err → Bool
  | .durTooShort | .durTooLong | .overMaxSeq | .noTarget | .oracleMiss .. => true
  | _ => false

theorem validateDuration_err {c : ChanCfg} {d : Nat} {e : Err} (h : validateDuration c d = .error e) :
    e.isSched = true := by
  unfold validateDuration at h
  by_cases h1 : d < c.minDur
  · rw [if_pos h1] at h; cases h; rfl
  rw [if_neg h1] at h
  by_cases h2 : overNat c.maxDur d = true
  · rw [if_pos h2] at h; cases h; rfl
  rw [if_neg h2] at h
  by_cases h3 : d % c.clock ≠ 0
  · rw [if_pos h3] at h
    by_cases h4 : overNat c.maxDur (d + (c.clock - d % c.clock)) = true
    · rw [if_pos h4] at h; cases h; rfl
    · rw [if_neg h4] at h; cases h
  · rw [if_neg h3] at h; cases h

theorem checkDuration_err {m : Option Nat} {t : Int} {e : Err} (h : checkDuration m t = .error e) :
    e.isSched = true := by
  unfold checkDuration at h
  repeat' split at h
  all_goals first | (cases h; rfl) | cases h

theorem last_err {c : ChanState} {e : Err} (h : c.last = .error e) : e.isSched = true := by
  unfold ChanState.last at h
  split at h
  · cases h
  · injection h with h; subst h; rfl

theorem addDelay_err {ms : Option Nat} {c : ChanState} {d : Nat} {e : Err}
    (h : addDelay ms c d = .error e) : e.isSched = true := by
  rcases addDelay_err_cases h with rfl | h1 | rfl | ⟨x, r, rfl⟩ <;>
    first | rfl | exact validateDuration_err h1

theorem waitForFall_err {ms : Option Nat} {c : ChanState} {e : Err}
    (h : waitForFall ms c = .error e) : e.isSched = true := by
  unfold waitForFall at h
  simp only at h
  split at h
  · cases ha : c.adjust (c.getDuration true - c.getDuration false).toNat with
    | error e1 => simp [ha, bind, Except.bind] at h; subst h; exact validateDuration_err ha
    | ok d => simp only [ha, bind, Except.bind] at h; exact addDelay_err h
  · cases h

theorem lift_err {c : ChanState} {x : Except Err ChanState} {e : Err}
    (h : (CRes.lift c x).err = some e) : x = .error e := by
  unfold CRes.lift at h
  cases x with
  | error e1 => simp at h; rw [h]
  | ok c' => simp at h

theorem addTarget_err {ms : Option Nat} {c : ChanState} {qs : List Nat} {e : Err}
    (h : (addTarget ms c qs).err = some e) : e.isSched = true := by
  unfold addTarget at h
  by_cases h0 : c.slots.isEmpty = true
  · have := lift_err (if_pos h0 ▸ h)
    cases hc : checkDuration ms 0 with
    | error e1 => simp [hc, bind, Except.bind] at this; subst this; exact checkDuration_err hc
    | ok u => simp [hc, bind, Except.bind] at this
  · rw [if_neg h0] at h
    split at h
    · simp at h
    · unfold CRes.bind at h
      split at h
      · have := lift_err h
        generalize (CRes.lift c (waitForFall ms c)).c = c1 at this
        unfold addTargetTail at this
        split at this
        · rename_i e1 hl; injection this with this; subst this; exact last_err hl
        · simp only at this
          split at this
          · rename_i e1 hadj
            injection this with this; subst this
            split at hadj
            · exact validateDuration_err hadj
            · cases hadj
          · split at this
            · rename_i e1 hc; injection this with this; subst this; exact checkDuration_err hc
            · cases this
      · exact waitForFall_err (lift_err h)

theorem phaseShift_atomic {s : SeqState} {phi : Rat} {qs : List Nat} {b : Basis} {e : Err}
    (h : (s.phaseShift phi qs b).err = some e) :
    (s.phaseShift phi qs b).st = s ∧ (e = .noBasis ∨ e = .unknownQubit) := by
  rcases phaseShift_cases s phi qs b with h' | h' | ⟨_, h'⟩ <;> rw [h'] at h ⊢
  · exact ⟨rfl, .inl (Option.some.inj h).symm⟩
  · exact ⟨rfl, .inr (Option.some.inj h).symm⟩
  · cases h

/-- When `_add` raises, nothing has been changed, unless it is the post-phase-shift that raises
(after the pulse was appended to `c` and the references of its targets were marked as used). -/
theorem addCore_err_cases {s : SeqState} {p : PulseIn} {n : ChName} {proto : Option Protocol}
    {drift : Option Drift} {e : Err} (h : (addCore s p n proto drift).err = some e) :
    (addCore s p n proto drift).st = s ∨
    ∃ c c' last t total, s.getChan n = some c ∧ c.last = .ok last ∧
      (((s.setChan c').mapRefs c.cfg.basis last.targets (·.updateLastUsed t)).phaseShift total
        last.targets c.cfg.basis).err = some e := by
  rcases addCore_cases p n proto drift with ⟨e', h'⟩ | ⟨_, c, c', last, slot, pr, _, hc, hl, _, _, _, h'⟩
  · rw [h']; exact .inl rfl
  · rw [h'] at h
    by_cases ht : totalShift pr.post drift slot.ti ≠ 0
    · rw [if_pos ht] at h; exact .inr ⟨c, c', last, slot.tf, _, hc, hl, h⟩
    · rw [if_neg ht] at h; cases h

/-- `_add` is atomic: whatever it raises, nothing has been changed (the only errors that
could follow the append, `noBasis` / `unknownQubit` from the post-phase-shift, are excluded). -/
theorem addCore_atomic {s : SeqState} {p : PulseIn} {n : ChName} {proto : Option Protocol}
    {drift : Option Drift} {e : Err} (h : (addCore s p n proto drift).err = some e)
    (h1 : e ≠ .noBasis) (h2 : e ≠ .unknownQubit) : (addCore s p n proto drift).st = s := by
  rcases addCore_err_cases h with h | ⟨_, _, _, _, _, _, _, h⟩
  · exact h
  · rcases (phaseShift_atomic h).2 with hx | hx
    · exact absurd hx h1
    · exact absurd hx h2

/-! ### Calls that leave nothing behind when they raise -/

/-- Whatever `r` raises (among the errors `P`), its state is `s`. -/
def Atomic (P : Err → Prop) (s : SeqState) (r : Raw) : Prop := ∀ e, r.err = some e → P e → r.st = s

namespace Atomic
variable {P : Err → Prop} {s : SeqState}

theorem fail (e : Err) : Atomic P s (Pulser.fail s e) := fun _ _ _ => rfl

theorem done (s' : SeqState) : Atomic P s (Pulser.done s') := fun _ h _ => by cases h

theorem ite {c : Prop} [Decidable c] {a b : Raw} (ha : c → Atomic P s a) (hb : ¬c → Atomic P s b) :
    Atomic P s (if c then a else b) := by
  by_cases hc : c
  · rw [if_pos hc]; exact ha hc
  · rw [if_neg hc]; exact hb hc

theorem guard {c : Prop} [Decidable c] {e : Err} {r : Raw} (h : ¬c → Atomic P s r) :
    Atomic P s (if c then Pulser.fail s e else r) := .ite (fun _ => .fail e) h

theorem orRollback (r : Raw) : Atomic P s (r.orRollback s) := fun _ h _ => Raw.orRollback_st_of_err h

theorem store {r : Raw} (op : Op) (h : Atomic P s r) : Atomic P s (Pulser.store op r) := by
  intro e he hp
  unfold Pulser.store at he ⊢
  cases hr : r.err with
  | none => simp [hr] at he
  | some e1 => simp only [hr] at he ⊢; exact h e (hr.trans he) hp

theorem markNonEmpty {r : Raw} (h : Atomic P s r) : Atomic P s (Pulser.markNonEmpty r) := by
  intro e he hp
  unfold Pulser.markNonEmpty at he ⊢
  cases hr : r.err with
  | none => simp [hr] at he
  | some e1 => simp only [hr] at he ⊢; exact h e (hr.trans he) hp

theorem withChan_lift (n : ChName) (f : ChanState → Except Err ChanState) :
    Atomic P s (s.withChan n fun c => CRes.lift c (f c)) :=
  fun _ h _ => withChan_lift_err (by rw [h]; rfl)

/-- A second step may follow a first one that succeeded only if it cannot raise an error of `P`
(or undoes the first). -/
theorem bind {r : Raw} {f : SeqState → Raw} (h1 : Atomic P s r) (h2 : r.err = none → Atomic P s (f r.st)) :
    Atomic P s (r.bind f) := by
  unfold Raw.bind
  cases hr : r.err with
  | none => exact h2 hr
  | some e => exact h1

theorem phaseShift (phi : Rat) (qs : List Nat) (b : Basis) : Atomic P s (s.phaseShift phi qs b) :=
  fun _ h _ => (phaseShift_atomic h).1

end Atomic

/-- `_target` is atomic for every error raised by its validation (everything except the errors
of the retarget itself, `Err.isSched`). -/
theorem targetCore_atomic {s : SeqState} {qs : List Nat} {n : ChName} {e : Err}
    (h : (targetCore s qs n).err = some e) (he : e.isSched = false) : (targetCore s qs n).st = s := by
  refine (?_ : Atomic (fun e => e.isSched = false) s (targetCore s qs n)) e h he
  unfold targetCore
  apply Atomic.guard; intro _
  cases hc : s.validateChannel n true with
  | error e1 => exact .fail _
  | ok c =>
    apply Atomic.guard; intro _
    apply Atomic.guard; intro _
    apply Atomic.guard; intro _
    apply Atomic.guard; intro _
    apply Atomic.guard; intro _
    -- the channel is there, so what is raised is raised by `add_target`
    intro e h he
    unfold SeqState.withChan at h
    simp only [(validateChannel_ok hc).1] at h
    rw [addTarget_err h] at he
    cases he

def Op.isAdd : Op → Bool
  | .add .. | .addDmm .. | .addEom .. => true
  | _ => false

/-- **A call that raises leaves the sequence as it was**, given that `_add` does for the errors `P`:
every call other than the three `add`s is refused by a guard before anything is changed, or is
rolled back, or (`phase_shift`) changes the references in its last step. -/
theorem stepRaw_atomic {P : Err → Prop} {s : SeqState}
    (hcore : ∀ p n proto drift, Atomic P s (addCore s p n proto drift)) (op : Op) :
    Atomic (fun e => op.isAdd = true → P e) s (stepRaw s op) := by
  have hadd : ∀ {op : Op} {r : Raw}, op.isAdd = true → Atomic P s r →
      Atomic (fun e => op.isAdd = true → P e) s r := fun h hr e he hp => hr e he (hp h)
  rcases stepRaw_shape s op with ⟨_, hst⟩ | ⟨hq, _⟩
  · exact fun _ _ _ => hst
  cases op with
  | declare name chId init =>
    apply Atomic.guard; intro _
    cases name with
    | dmm _ _ => exact .fail _
    | user u =>
      apply Atomic.guard; intro _
      cases s.dev.chans[chId]? with
      | none => exact .fail _
      | some cfg =>
        refine .ite (fun _ => .guard fun _ => .guard fun _ => .fail _) fun _ =>
          .store _ (.ite (fun _ => .done _) fun _ => ?_)
        cases init with
        | none => exact .done _
        | some qs => exact .orRollback _
  | configDetMap dmmId maxW sumW =>
    apply Atomic.guard; intro _
    cases s.dev.dmms[dmmId]? with
    | none => exact .fail _
    | some cfg => exact .guard fun _ => .guard fun _ => .store _ (.done _)
  | target | delay | align | disableEom => exact .store _ (.orRollback _)
  | add p n proto =>
    refine hadd rfl (.store _ (.markNonEmpty (.guard fun _ => ?_)))
    cases s.validateChannel n true with
    | error e => exact .fail _
    | ok c => exact .guard fun _ => hcore _ _ _ _
  | addDmm p n proto =>
    refine hadd rfl (.store _ (.markNonEmpty (.guard fun _ => ?_)))
    cases s.validateChannel n false with
    | error e => exact .fail _
    | ok c => exact .guard fun _ => hcore _ _ _ _
  | addEom n dur phase post proto corr fs fe ref =>
    refine hadd rfl (.store _ (.markNonEmpty (.guard fun _ => ?_)))
    cases s.validateChannel n false with
    | error e => exact .fail _
    | ok c =>
      simp only
      cases c.eom.getLast? with
      | none => exact .fail _
      | some b => exact .guard fun _ => hcore _ _ _ _
  | phaseShift phi qs b => exact .store _ (.phaseShift phi qs b)
  | enableEom n e =>
    apply Atomic.guard; intro _
    cases s.validateChannel n false with
    | error er => exact .fail _
    | ok c =>
      apply Atomic.guard; intro _
      apply Atomic.guard; intro _
      cases processEomParams c e with
      | error er => exact .fail _
      | ok detOff => exact .orRollback _
  | modifyEom n e =>
    apply Atomic.guard; intro _
    cases s.validateChannel n false with
    | error er => exact .fail _
    | ok c =>
      apply Atomic.guard; intro _
      cases processEomParams c e with
      | error er => exact .fail _
      | ok detOff => exact .orRollback _
  | measure b => exact .store _ (.guard fun _ => .guard fun _ => .done _)
  | getDuration | estimate | phaseRef => cases hq

/-! ### `delay` refused for its duration

After the repair of F2.1/F2.2 a `delay` refused for its duration (`durTooShort` / `durTooLong`) leaves
the sequence as it was: either the pre-check refuses it before anything is appended, or it is the
wait for the fall time itself that is refused (atomically), and once the duration has passed the
pre-check the delay proper can only fail for the sequence length (`overMaxSeq`: there `delayChecked`
itself leaves the fall wait behind, `C09.delay_over_max_seq_not_atomic_old`, and it is the roll-back
in `stepRaw` that restores the state — the repair of F2.3). -/

theorem addDelay_err_of_valid {ms : Option Nat} {c : ChanState} {d r : Nat} {e : Err}
    (hv : validateDuration c.cfg d = .ok r) (h : addDelay ms c d = .error e) :
    e ≠ .durTooShort ∧ e ≠ .durTooLong := by
  rcases addDelay_err_cases h with rfl | h1 | rfl | ⟨x, r', rfl⟩
  · exact ⟨nofun, nofun⟩
  · rw [hv] at h1; cases h1
  · exact ⟨nofun, nofun⟩
  · exact ⟨nofun, nofun⟩

/-- `_delay` is atomic for the duration errors, provided the duration of a delay that follows a
fall wait has been validated: that wait is then the only step a duration can be refused in. -/
theorem delayCore_atomic {s : SeqState} {d : Int} {n : ChName} {atRest : Bool}
    (hv : (atRest && decide (d ≠ 0) && s.measured.isNone) = true → ∀ c,
      s.validateChannel n false = .ok c → ¬ d < 0 ∧ ∃ r, validateDuration c.cfg d.toNat = .ok r) :
    Atomic (fun e => e = .durTooShort ∨ e = .durTooLong) s (delayCore s d n atRest) := by
  unfold delayCore
  apply Atomic.guard; intro hm
  cases hc : s.validateChannel n false with
  | error e => exact .fail _
  | ok c =>
    cases atRest with
    | false => exact .bind (.done _) fun _ => .ite (fun _ => .done _) fun _ => .withChan_lift _ _
    | true =>
      rw [if_pos rfl]
      refine .bind (.withChan_lift _ _) fun hok => .ite (fun _ => .done _) fun hd => ?_
      obtain ⟨hneg, r, hvd⟩ :=
        hv (by simp [hd, Option.not_isSome_iff_eq_none.mp hm]) c hc
      have hgc := (validateChannel_ok hc).1
      -- the fall wait went through and left `c1`, a channel with the configuration of `c`
      unfold SeqState.withChan at hok ⊢
      simp only [hgc] at hok ⊢
      cases hw : waitForFall s.dev.maxSeqDur c with
      | error e => rw [hw] at hok; cases hok
      | ok c1 =>
        have hk := (waitForFall_wait hw).frame
        intro e he hp
        exfalso
        rw [show (CRes.lift c (.ok c1)).c = c1 from rfl,
          getChan_setChan_same hgc (by rw [hk]; exact (getChan_mem hgc).2)] at he
        simp only [if_neg hneg] at he
        have := addDelay_err_of_valid (c := c1) (by rw [hk]; exact hvd) (lift_err he)
        rcases hp with rfl | rfl
        · exact this.1 rfl
        · exact this.2 rfl

/-- **A delay refused for its duration leaves the sequence untouched** (repaired F2.1/F2.2). -/
theorem delayChecked_atomic {s : SeqState} {d : Int} {n : ChName} {atRest : Bool} {e : Err}
    (h : (delayChecked s d n atRest).err = some e) (he : e = .durTooShort ∨ e = .durTooLong) :
    (delayChecked s d n atRest).st = s := by
  refine (?_ : Atomic (fun e => e = .durTooShort ∨ e = .durTooLong) s (delayChecked s d n atRest)) e h he
  unfold delayChecked
  refine .ite (fun _ => ?_) fun hg => delayCore_atomic fun h => absurd h hg
  cases hc : s.validateChannel n false with
  | error e1 => exact delayCore_atomic fun _ c hc' => by rw [hc] at hc'; cases hc'
  | ok c =>
    simp only
    cases hr : (if d < 0 then (.error .durTooShort : Except Err Nat)
      else validateDuration c.cfg d.toNat) with
    | error e1 => exact .fail _
    | ok r =>
      refine delayCore_atomic fun _ c' hc' => ?_
      cases hc.symm.trans hc'
      by_cases hneg : d < 0
      · rw [if_pos hneg] at hr; cases hr
      · exact ⟨hneg, r, by rwa [if_neg hneg] at hr⟩

end Pulser
