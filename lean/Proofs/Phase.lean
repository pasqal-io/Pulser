/-
  Proofs.Phase — phase reduction and the phase tracker (C07).
-/
import PulserModel.PhaseRef
import Mathlib.Algebra.Order.Field.Rat
import Mathlib.Tactic.NormNum
namespace Pulser

theorem twoPi_pos : (0 : Rat) < twoPi := by unfold twoPi; norm_num

theorem fmtPhase_range (x : Rat) : 0 ≤ fmtPhase x ∧ fmtPhase x < twoPi := by
  unfold fmtPhase
  have hT := twoPi_pos
  -- ⌊x/2π⌋·2π ≤ x < (⌊x/2π⌋ + 1)·2π
  have h1 := (le_div_iff₀ hT).mp (Rat.floor_le (x / twoPi))
  have h2 := (div_lt_iff₀ hT).mp (Rat.lt_floor_add_one (x / twoPi))
  rw [Int.cast_add, Int.cast_one, add_one_mul] at h2
  exact ⟨sub_nonneg.mpr h1, sub_lt_iff_lt_add'.mpr h2⟩

theorem fmtPhase_eq_mod (x : Rat) : ∃ k : Int, fmtPhase x = x - k * twoPi :=
  ⟨(x / twoPi).floor, rfl⟩

theorem fmtPhase_of_range {x : Rat} (h0 : 0 ≤ x) (h1 : x < twoPi) : fmtPhase x = x := by
  unfold fmtPhase
  have hT := twoPi_pos
  have hf : (x / twoPi).floor = 0 := by
    have c1 : (0 : Int) ≤ (x / twoPi).floor :=
      Rat.le_floor_iff.mpr (by rw [Int.cast_zero]; exact div_nonneg h0 hT.le)
    have c2 : (x / twoPi).floor < 1 :=
      Rat.floor_lt_iff.mpr (by rw [Int.cast_one, div_lt_iff₀ hT, one_mul]; exact h1)
    exact Int.le_antisymm (Int.le_of_lt_add_one (b := 0) c2) c1
  rw [hf, Int.cast_zero, zero_mul, sub_zero]

theorem fmtPhase_idem (x : Rat) : fmtPhase (fmtPhase x) = fmtPhase x :=
  fmtPhase_of_range (fmtPhase_range x).1 (fmtPhase_range x).2

/-- Well-formed tracker: non-empty, times strictly increasing, nothing after `lastUsed`. -/
def TrOk (q : QRef) : Prop :=
  q.tr ≠ [] ∧ q.tr.Pairwise (fun a b => a.1 < b.1) ∧ ∀ e ∈ q.tr, e.1 ≤ q.lastUsed

theorem TrOk_default : TrOk ({} : QRef) :=
  ⟨List.cons_ne_nil _ _, List.pairwise_singleton _ _,
    fun _ he => by rw [List.mem_singleton.mp he]⟩

theorem getLast?_getD_mem {l : List (Int × Rat)} (h : l ≠ []) : l.getLast?.getD (0, 0) ∈ l := by
  cases hl : l.getLast? with
  | none => simp at hl; exact absurd hl h
  | some x => simp [List.mem_of_getLast? hl]

theorem insertSorted_of_le (t : Int) (ph : Rat) (l : List (Int × Rat)) (h : ∀ e ∈ l, e.1 ≤ t) :
    QRef.insertSorted t ph l = l ++ [(t, ph)] := by
  induction l with
  | nil => rfl
  | cons e rest ih =>
    rw [QRef.insertSorted, if_pos (h e List.mem_cons_self),
      ih fun x hx => h x (List.mem_cons_of_mem _ hx)]
    rfl

theorem replaceFirst_of_lt (t : Int) (ph x : Rat) (pre : List (Int × Rat)) (h : ∀ e ∈ pre, e.1 < t) :
    QRef.replaceFirst t ph (pre ++ [(t, x)]) = pre ++ [(t, ph)] := by
  induction pre with
  | nil => exact if_pos rfl
  | cons e rest ih =>
    rw [List.cons_append, QRef.replaceFirst, if_neg (Int.ne_of_lt (h e List.mem_cons_self)),
      ih fun y hy => h y (List.mem_cons_of_mem _ hy)]
    rfl

/-- replacing/inserting at a time `t` that is ≥ every recorded time touches only the end -/
theorem set_at_end (l : List (Int × Rat)) (t : Int) (ph : Rat) (hne : l ≠ [])
    (hs : l.Pairwise (fun a b => a.1 < b.1)) (hle : ∀ e ∈ l, e.1 ≤ t) :
    let l' := if l.any (·.1 == t) then QRef.replaceFirst t ph l else QRef.insertSorted t ph l
    l'.getLast? = some (t, ph) ∧ l' ≠ [] ∧ l'.Pairwise (fun a b => a.1 < b.1) ∧ (∀ e ∈ l', e.1 ≤ t) := by
  -- the new list is `pre ++ [(t, ph)]`, where `pre` is `l` without a last entry at time `t`
  have key : ∃ pre, (if l.any (·.1 == t) then QRef.replaceFirst t ph l else QRef.insertSorted t ph l)
      = pre ++ [(t, ph)] ∧ pre.Pairwise (fun a b => a.1 < b.1) ∧ ∀ e ∈ pre, e.1 < t := by
    obtain ⟨pre, a, hl⟩ := (List.eq_nil_or_concat l).resolve_left hne
    rw [List.concat_eq_append] at hl; subst hl
    have hp := List.pairwise_append.mp hs
    have hmem : a ∈ pre ++ [a] := List.mem_append_right _ List.mem_cons_self
    have hpre : ∀ e ∈ pre, e.1 < a.1 := fun e he => hp.2.2 e he a List.mem_cons_self
    have hat : a.1 ≤ t := hle a hmem
    by_cases h : a.1 = t
    · refine ⟨pre, ?_, hp.1, fun e he => h ▸ hpre e he⟩
      have hany : ((pre ++ [a]).any fun x => x.1 == t) = true :=
        List.any_eq_true.mpr ⟨a, hmem, beq_iff_eq.mpr h⟩
      rw [if_pos hany]
      obtain ⟨a1, a2⟩ := a
      subst h
      exact replaceFirst_of_lt _ _ _ _ hpre
    · have hlt : ∀ e ∈ pre ++ [a], e.1 < t := by
        intro e he
        rcases List.mem_append.mp he with h' | h'
        · exact Int.lt_of_lt_of_le (hpre e h') hat
        · rw [List.mem_singleton.mp h']; exact Int.lt_iff_le_and_ne.mpr ⟨hat, h⟩
      refine ⟨pre ++ [a], ?_, hs, hlt⟩
      rw [if_neg, insertSorted_of_le _ _ _ hle]
      intro hany
      obtain ⟨e, he, het⟩ := List.any_eq_true.mp hany
      exact Int.ne_of_lt (hlt e he) (beq_iff_eq.mp het)
  obtain ⟨pre, e, h1, h2⟩ := key
  simp only [e]
  refine ⟨List.getLast?_concat .., List.append_ne_nil_of_right_ne_nil _ (List.cons_ne_nil _ _),
    List.pairwise_append.mpr ⟨h1, List.pairwise_singleton _ _,
      fun a ha b hb => List.mem_singleton.mp hb ▸ h2 a ha⟩, fun x hx => ?_⟩
  rcases List.mem_append.mp hx with h | h
  · exact le_of_lt (h2 x h)
  · rw [List.mem_singleton.mp h]

/-- **`increment_phase` adds to the current reference**: the new current reference is the old
one plus `phi`, reduced; it is recorded at `last_used`, which becomes the latest time. -/
theorem incrementPhase_spec (q : QRef) (phi : Rat) (h : TrOk q) :
    (q.incrementPhase phi).lastPhase = fmtPhase (q.lastPhase + phi) ∧
    (q.incrementPhase phi).lastTime = q.lastUsed ∧
    (q.incrementPhase phi).lastUsed = q.lastUsed ∧ TrOk (q.incrementPhase phi) := by
  obtain ⟨h1, h2, h3⟩ := h
  obtain ⟨k1, k2, k3, k4⟩ := set_at_end q.tr q.lastUsed (fmtPhase (q.lastPhase + phi)) h1 h2 h3
  -- `__setitem__` writes the list of `set_at_end` into the tracker, whichever branch it takes
  have e : q.incrementPhase phi =
      { q with
        tr := if q.tr.any (·.1 == q.lastUsed) then
            QRef.replaceFirst q.lastUsed (fmtPhase (q.lastPhase + phi)) q.tr
          else QRef.insertSorted q.lastUsed (fmtPhase (q.lastPhase + phi)) q.tr } := by
    unfold QRef.incrementPhase QRef.setItem; split <;> rfl
  rw [e]
  -- `lastPhase` and `lastTime` are the components of the last entry
  exact ⟨congrArg (fun o => (o.getD (0, 0)).2) k1, congrArg (fun o => (o.getD (0, 0)).1) k1, rfl, k2, k3, k4⟩

theorem updateLastUsed_spec (q : QRef) (t : Int) (h : TrOk q) :
    (q.updateLastUsed t).lastPhase = q.lastPhase ∧ (q.updateLastUsed t).lastTime = q.lastTime ∧
    TrOk (q.updateLastUsed t) := by
  refine ⟨rfl, rfl, h.1, h.2.1, ?_⟩
  exact fun e he => Int.le_trans (h.2.2 e he) (Int.le_max_left q.lastUsed t)

end Pulser
