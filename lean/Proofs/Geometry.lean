/-
  Proofs.Geometry — specification predicates and helper lemmas for C12.

  The declarative side (`CoordsOk`, `LayoutFits`, `Fits`, `ValidParams`) is stated here
  because the lemmas that connect it to the executable model need it; the property
  theorems themselves are in Properties/C12.lean.
-/
import PulserModel.Geometry
import Mathlib.Tactic.Linarith
import Mathlib.Tactic.Ring
import Mathlib.Algebra.Order.Field.Rat

namespace Pulser
namespace Geom

theorem lt_iff_sq_lt {K : Type} [Ring K] [LinearOrder K] [IsStrictOrderedRing K] {d c : K}
    (hd : 0 ≤ d) : d < c ↔ (0 < c ∧ d * d < c * c) :=
  ⟨fun h => ⟨hd.trans_lt h, (mul_self_lt_mul_self_iff hd (hd.trans h.le)).mp h⟩,
   fun ⟨hc, h⟩ => (mul_self_lt_mul_self_iff hd hc.le).mpr h⟩

theorem eps_pos : (0 : Rat) < eps := by unfold eps; norm_num

/-- The comparison the code makes on a distance `d ≥ 0` with slack `e`, stated on `d²`;
`tooClose` is the right-hand side with `e = eps`.  Used over `ℚ` and, for `d = √s`, over `ℝ`. -/
theorem close_iff_sq {K : Type} [Ring K] [LinearOrder K] [IsStrictOrderedRing K] {d m e : K}
    (hd : 0 ≤ d) (he : 0 < e) :
    (d - m < -e ∨ d < e) ↔ (0 < m - e ∧ d * d < (m - e) * (m - e)) ∨ d * d < e * e := by
  rw [← lt_iff_sq_lt hd, sub_lt_iff_lt_add, neg_add_eq_sub, lt_iff_sq_lt hd (c := e),
    and_iff_right he]

theorem tooClose_eq_true_iff (m s : Rat) :
    tooClose m s = true ↔ (0 < m - eps ∧ s < (m - eps) * (m - eps)) ∨ s < eps * eps := by
  simp only [tooClose, Bool.or_eq_true, Bool.and_eq_true, decide_eq_true_eq]

/-- The comparison the code makes on the distance `d` is the comparison the model makes
on the squared distance `s = d²` (rational `d`). -/
theorem tooClose_iff (m s d : Rat) (hd : 0 ≤ d) (hs : d * d = s) :
    tooClose m s = true ↔ (d - m < -eps ∨ d < eps) := by
  rw [tooClose_eq_true_iff, close_iff_sq hd eps_pos, hs]

/-- What `_validate_coords` demands of a list of positions. -/
structure CoordsOk (dev : DeviceGeom) (ps : List Pos) (atoms : Bool) : Prop where
  /-- no more than the maximum number of atoms (registers only, when defined) -/
  count : atoms = true → ∀ k, dev.maxAtomNum = some k → ps.length ≤ k
  /-- every pair is at least the minimum distance apart (up to 1e-6) and distinct -/
  apart : ∀ i j, i < j → j < ps.length →
    tooClose dev.minDist (sqDist (ps.getD i []) (ps.getD j [])) = false
  /-- every position lies within the maximum radial distance (when defined) -/
  within : ∀ R, dev.maxRadial = some R → ∀ i, i < ps.length →
    sqNorm (ps.getD i []) ≤ (R : Rat) * R

/-- What `validate_layout` demands. -/
structure LayoutFits (dev : DeviceGeom) (L : LayoutG) : Prop where
  dim : L.dim ≤ dev.dims
  minTraps : dev.minTraps ≤ L.traps.length
  maxTraps : ∀ k, dev.maxTraps = some k → L.traps.length ≤ k
  coords : CoordsOk dev L.traps false

/-- A register fits a device. -/
structure Fits (dev : DeviceGeom) (reg : RegG) : Prop where
  dim : reg.dim ≤ dev.dims
  coords : CoordsOk dev reg.atoms true
  layout : ∀ L, reg.layout = some L →
    LayoutFits dev L ∧ (reg.atoms.length : Rat) ≤ (L.traps.length : Rat) * dev.maxFilling

theorem mem_allPairs {n i j : Nat} : (i, j) ∈ allPairs n ↔ i < j ∧ j < n := by
  simp only [allPairs, List.mem_flatMap, List.mem_range, List.mem_map, List.mem_filter,
    decide_eq_true_eq, Prod.mk.injEq]
  constructor
  · rintro ⟨a, _, b, ⟨hb, hab⟩, rfl, rfl⟩; exact ⟨hab, hb⟩
  · rintro ⟨h1, h2⟩; exact ⟨i, by omega, j, ⟨h2, h1⟩, rfl, rfl⟩

theorem mem_badPairs {dev : DeviceGeom} {ps : List Pos} {i j : Nat} :
    (i, j) ∈ badPairs dev ps ↔
      i < j ∧ j < ps.length ∧ tooClose dev.minDist (sqDist (ps.getD i []) (ps.getD j [])) = true := by
  simp only [badPairs, List.mem_filter, mem_allPairs, and_assoc]

theorem badPairs_eq_nil_iff {dev : DeviceGeom} {ps : List Pos} :
    badPairs dev ps = [] ↔ ∀ i j, i < j → j < ps.length →
      tooClose dev.minDist (sqDist (ps.getD i []) (ps.getD j [])) = false := by
  simp only [badPairs, List.filter_eq_nil_iff, Prod.forall, mem_allPairs, Bool.not_eq_true, and_imp]

theorem mem_tooFar {R : Nat} {ps : List Pos} {i : Nat} :
    i ∈ tooFar R ps ↔ i < ps.length ∧ (R : Rat) * R < sqNorm (ps.getD i []) := by
  simp only [tooFar, List.mem_filter, List.mem_range, decide_eq_true_eq]

theorem tooFar_eq_nil_iff {R : Nat} {ps : List Pos} :
    tooFar R ps = [] ↔ ∀ i, i < ps.length → sqNorm (ps.getD i []) ≤ (R : Rat) * R := by
  simp only [tooFar, List.filter_eq_nil_iff, List.mem_range, decide_eq_true_eq, not_lt]

/-! ### `validate_*` accept exactly what fits

Every `validate_*` is a chain `if c₁ then some e₁ else if c₂ then some e₂ else …`: it returns
`none` iff no `cᵢ` holds (`ite_some_eq_none`, once per link), and the negated conditions are the
fields of the specification structure in the same order. -/

theorem ite_some_eq_none {ε : Type} {c : Prop} [Decidable c] {e : ε} {r : Option ε} :
    (if c then some e else r) = none ↔ ¬c ∧ r = none := by
  split <;> simp [*]

theorem ite_none_eq_none {ε : Type} {c : Prop} [Decidable c] {e : ε} :
    (if c then none else some e) = none ↔ c := by
  split <;> simp [*]

theorem exceeds_false_iff (lim : Option Nat) (n : Nat) :
    exceeds lim n = false ↔ ∀ k, lim = some k → n ≤ k := by
  cases lim <;> simp [exceeds]

theorem exceeds_true_iff (lim : Option Nat) (n : Nat) :
    exceeds lim n = true ↔ ∃ k, lim = some k ∧ k < n := by
  cases lim <;> simp [exceeds]

theorem radiusCheck_none_iff (lim : Option Nat) (ps : List Pos) :
    radiusCheck lim ps = none ↔
      ∀ R, lim = some R → ∀ i, i < ps.length → sqNorm (ps.getD i []) ≤ (R : Rat) * R := by
  cases lim with
  | none => exact ⟨fun _ _ => nofun, fun _ => rfl⟩
  | some R =>
    simp only [radiusCheck, ite_some_eq_none, ne_eq, not_not, and_true, tooFar_eq_nil_iff,
      Option.some.injEq, forall_eq']

theorem validateCoords_none_iff (dev : DeviceGeom) (ps : List Pos) (atoms : Bool) :
    validateCoords dev ps atoms = none ↔ CoordsOk dev ps atoms := by
  simp only [validateCoords, ite_some_eq_none, Bool.and_eq_true, not_and, Bool.not_eq_true,
    exceeds_false_iff, ne_eq, not_not, badPairs_eq_nil_iff, radiusCheck_none_iff]
  exact ⟨fun ⟨a, b, c⟩ => ⟨a, b, c⟩, fun ⟨a, b, c⟩ => ⟨a, b, c⟩⟩

theorem validateCoords_some {dev : DeviceGeom} {ps : List Pos} {atoms : Bool} {e : CoordErr}
    (h : validateCoords dev ps atoms = some e) :
    match e with
    | .atomsNumber n => n = ps.length ∧ exceeds dev.maxAtomNum n = true
    | .distance pairs => pairs = badPairs dev ps
    | .radius ids => ∃ R, dev.maxRadial = some R ∧ ids = tooFar R ps := by
  unfold validateCoords at h
  split at h
  · cases h; rename_i hc; exact ⟨rfl, (Bool.and_eq_true _ _ ▸ hc).2⟩
  · split at h
    · cases h; rfl
    · unfold radiusCheck at h
      split at h
      · split at h <;> cases h
        exact ⟨_, ‹_›, rfl⟩
      · cases h

theorem validateLayout_none_iff (dev : DeviceGeom) (L : LayoutG) :
    validateLayout dev L = none ↔ LayoutFits dev L := by
  simp only [validateLayout, ite_some_eq_none, not_lt, Bool.not_eq_true, exceeds_false_iff,
    Option.map_eq_none_iff, validateCoords_none_iff]
  exact ⟨fun ⟨a, b, c, d⟩ => ⟨a, b, c, d⟩, fun ⟨a, b, c, d⟩ => ⟨a, b, c, d⟩⟩

theorem le_maxQubits_iff (dev : DeviceGeom) (hf : 0 ≤ dev.maxFilling) (n t : Nat) :
    n ≤ maxQubits dev t ↔ (n : Rat) ≤ (t : Rat) * dev.maxFilling := by
  have h0 : 0 ≤ ((t : Rat) * dev.maxFilling).floor :=
    Rat.le_floor_iff.mpr (by exact_mod_cast mul_nonneg (Nat.cast_nonneg t) hf)
  rw [maxQubits, Int.le_toNat h0, Rat.le_floor_iff, Int.cast_natCast]

theorem validateFilling_none_iff (dev : DeviceGeom) (hf : 0 ≤ dev.maxFilling) (n t : Nat) :
    validateFilling dev n t = none ↔ (n : Rat) ≤ (t : Rat) * dev.maxFilling := by
  simp only [validateFilling, ite_some_eq_none, not_lt, and_true, le_maxQubits_iff dev hf]

theorem validateMappable_none_iff (dev : DeviceGeom) (hf : 0 ≤ dev.maxFilling) (L : LayoutG)
    (n : Nat) : validateMappable dev L n = none ↔
      LayoutFits dev L ∧ (n : Rat) ≤ (L.traps.length : Rat) * dev.maxFilling := by
  rw [← validateLayout_none_iff, ← validateFilling_none_iff dev hf, validateMappable]
  cases validateLayout dev L <;> simp

/-- An integer parameter is acceptable: undefined only where allowed, else positive. -/
def IntOk (optional : Bool) (v : Option Int) : Prop :=
  match v with
  | none => optional = true
  | some x => 0 < x

/-- The documented constraints on the parameters of a device. -/
structure ValidParams (p : DevParams) : Prop where
  dims : p.dimensions = 2 ∨ p.dimensions = 3
  ryd : 49 < p.rydbergLevel ∧ p.rydbergLevel < 101
  minDist : ∃ m, p.minAtomDistance = some m ∧ 0 ≤ m
  maxAtom : IntOk p.virtualDev p.maxAtomNum
  maxRadial : IntOk p.virtualDev p.maxRadialDistance
  maxSeq : IntOk true p.maxSequenceDuration
  maxRuns : IntOk true p.maxRuns
  minTraps : IntOk false p.minLayoutTraps
  maxTraps : IntOk true p.maxLayoutTraps
  filling : 0 < p.maxLayoutFilling ∧ p.maxLayoutFilling ≤ 1
  optimal : ∀ o, p.optimalLayoutFilling = some o → 0 < o ∧ o ≤ p.maxLayoutFilling
  traps : ∀ mx, p.maxLayoutTraps = some mx →
    p.minLayoutTraps.getD 1 ≤ mx ∧
    ∀ a, p.maxAtomNum = some a → a ≤ (p.maxLayoutFilling * (mx : Rat)).floor
  slm : p.supportsSlmMask = true → p.dmms ≠ []
  ids : ∀ ids, p.channelIds = some ids →
    ids.Nodup ∧ ids.length = p.channels.length ∧ ∀ s ∈ ids, s ∉ dmmNames p.dmms.length
  xy : (∃ c ∈ p.channels, c.xy = true) → p.coeffXYIsFloat = true
  physical : p.virtualDev = false →
    (∀ c ∈ p.channels ++ p.dmms, c.virtualCh = false) ∧
    ∀ L ∈ p.layouts, LayoutFits p.geom L

theorem firstErr_cons_eq_none {ε : Type} (a : Option ε) (l : List (Option ε)) :
    firstErr (a :: l) = none ↔ a = none ∧ firstErr l = none := by
  cases a <;> simp [firstErr]

theorem firstErr_none_iff {ε : Type} (l : List (Option ε)) :
    firstErr l = none ↔ ∀ x ∈ l, x = none := by
  induction l with
  | nil => simp [firstErr]
  | cons a l ih => rw [firstErr_cons_eq_none, ih, List.forall_mem_cons]

theorem checkInt_none_iff (name : String) (optional : Bool) (v : Option Int) :
    checkInt name optional v = none ↔ IntOk optional v := by
  unfold checkInt IntOk
  cases v with
  | none => cases optional <;> simp
  | some x => by_cases h : 0 < x <;> simp [h]

theorem checkMinDist_none_iff (v : Option Rat) :
    checkMinDist v = none ↔ ∃ m, v = some m ∧ 0 ≤ m := by
  cases v with
  | none => exact ⟨nofun, nofun⟩
  | some m => simp only [checkMinDist, ite_none_eq_none, Option.some.injEq, exists_eq_left']

theorem checkTraps_none_iff (p : DevParams) :
    checkTraps p = none ↔ ∀ mx, p.maxLayoutTraps = some mx →
      p.minLayoutTraps.getD 1 ≤ mx ∧
      ∀ a, p.maxAtomNum = some a → a ≤ (p.maxLayoutFilling * (mx : Rat)).floor := by
  unfold checkTraps
  cases p.maxLayoutTraps with
  | none => exact ⟨fun _ _ => nofun, fun _ => rfl⟩
  | some mx =>
    cases p.maxAtomNum with
    | none =>
      simp only [ite_some_eq_none, not_lt, and_true, Option.some.injEq, forall_eq', reduceCtorEq,
        false_imp_iff, implies_true]
    | some a => simp only [ite_some_eq_none, not_lt, and_true, Option.some.injEq, forall_eq']

theorem checkChannelIds_none_iff (p : DevParams) :
    checkChannelIds p = none ↔ ∀ ids, p.channelIds = some ids →
      ids.Nodup ∧ ids.length = p.channels.length ∧ ∀ s ∈ ids, s ∉ dmmNames p.dmms.length := by
  unfold checkChannelIds
  cases p.channelIds with
  | none => simp
  | some ids =>
    simp only [ite_some_eq_none, not_not, ne_eq, List.any_eq_true, List.contains_iff_mem, not_exists,
      not_and, and_true, Option.some.injEq, forall_eq']

theorem checkLayouts_none_iff (g : DeviceGeom) (ls : List LayoutG) :
    checkLayouts g ls = none ↔ ∀ L ∈ ls, LayoutFits g L := by
  induction ls with
  | nil => simp [checkLayouts]
  | cons L rest ih =>
    rw [checkLayouts, List.forall_mem_cons, ← ih, ← validateLayout_none_iff]
    cases validateLayout g L <;> simp

end Geom
end Pulser
