/-
  Proofs.Steps — every API call is its body, stored; and the state the body ends in is reached
  from the pre-state by primitive state changes, each carrying what the code has checked before
  making it (`stepRaw_shape`).  For invariants the walk through `stepRaw`, `targetCore`, `delayCore`,
  `alignLoop` and `addCore` is done here, once: an invariant of the scheduler is proved per primitive
  (`Prim`, `ChanPrim`) and lifted through `Steps`.
-/
import PulserModel.Sequence
import Proofs.Shape
namespace Pulser

/-! ### Reading and writing the parts of a state -/

theorem getChan_mem {s : SeqState} {n : ChName} {c : ChanState} (h : s.getChan n = some c) :
    c ∈ s.chans ∧ c.name = n :=
  ⟨List.mem_of_find?_eq_some h, by simpa using List.find?_some h⟩

theorem setChan_eq_set {s : SeqState} {n : ChName} {c c' : ChanState} (hc : s.getChan n = some c)
    (hn : c'.name = c.name) : ∃ i, s.chans[i]? = some c ∧ (s.setChan c').chans = s.chans.set i c' := by
  have hf : s.chans.find? (·.name == c'.name) = some c := by
    rw [hn, (getChan_mem hc).2]; exact hc
  unfold SeqState.setChan
  simp only
  generalize s.chans = l at hf
  induction l with
  | nil => cases hf
  | cons a rest ih =>
    unfold SeqState.replaceChan
    rw [List.find?_cons] at hf
    split at hf
    · rename_i ha
      injection hf with hf; subst hf
      exact ⟨0, rfl, by rw [if_pos ha]; rfl⟩
    · rename_i ha
      obtain ⟨i, hi, he⟩ := ih hf
      exact ⟨i + 1, hi, by rw [if_neg (by simpa using ha), he]; rfl⟩

theorem setChan_map {β : Type} (g : ChanState → β) {s : SeqState} {n : ChName} {c c' : ChanState}
    (hc : s.getChan n = some c) (hn : c'.name = c.name) (hg : g c' = g c) :
    (s.setChan c').chans.map g = s.chans.map g := by
  -- the entry that is replaced has the same image
  obtain ⟨i, hi, he⟩ := setChan_eq_set hc hn
  obtain ⟨hlt, hget⟩ := List.getElem?_eq_some_iff.mp hi
  have hlt' : i < (s.chans.map g).length := by rw [List.length_map]; exact hlt
  rw [he, List.map_set, hg, ← hget, ← List.getElem_map g (h := hlt'), List.set_getElem_self]

theorem setChan_self {s : SeqState} {n : ChName} {c : ChanState} (h : s.getChan n = some c) :
    s.setChan c = s := by
  have := setChan_map id h rfl rfl
  simp only [List.map_id] at this
  show { s with chans := (s.setChan c).chans } = s
  rw [this]

theorem getChan_of_chans {s s' : SeqState} (h : s'.chans = s.chans) (n : ChName) :
    s'.getChan n = s.getChan n := by
  unfold SeqState.getChan; rw [h]

theorem getChan_setChan (s : SeqState) (c' : ChanState) (m : ChName) :
    (s.setChan c').getChan m =
      if m = c'.name then (s.getChan m).map (fun _ => c') else s.getChan m := by
  unfold SeqState.setChan SeqState.getChan
  simp only
  induction s.chans with
  | nil => simp [SeqState.replaceChan]
  | cons a rest ih =>
    unfold SeqState.replaceChan
    by_cases ha : (a.name == c'.name) = true
    · have ha' : a.name = c'.name := eq_of_beq ha
      simp only [ha, if_true, List.find?_cons]
      by_cases hm : m = c'.name
      · subst hm; simp [ha']
      · have h1 : (c'.name == m) = false := beq_false_of_ne fun e => hm e.symm
        have h2 : (a.name == m) = false := by rw [ha']; exact h1
        simp [hm, h1, h2]
    · simp only [ha, if_false, Bool.false_eq_true, List.find?_cons]
      by_cases ham : (a.name == m) = true
      · have : m ≠ c'.name := by
          intro e; apply ha; rw [← e]; exact ham
        simp [ham, this]
      · simp only [ham]
        exact ih

theorem getChan_setChan_same {s : SeqState} {n : ChName} {c c' : ChanState}
    (h : s.getChan n = some c) (hn : c'.name = n) : (s.setChan c').getChan n = some c' := by
  rw [getChan_setChan, if_pos hn.symm, h]; rfl

theorem getRefs_setRefs (s : SeqState) (b : Basis) (l : List QRef) (b' : Basis) :
    (s.setRefs b l).getRefs b' = if b' = b then (s.getRefs b').map (fun _ => l) else s.getRefs b' := by
  unfold SeqState.setRefs SeqState.getRefs
  simp only
  induction s.refs with
  | nil => exact (ite_self _).symm
  | cons x rest ih =>
    simp only [List.map_cons, List.find?_cons]
    by_cases hx : (x.1 == b) = true
    · have hxb : x.1 = b := eq_of_beq hx
      rw [if_pos hx]
      by_cases hb : b' = b
      · subst hb; simp [hxb]
      · have h1 : (b == b') = false := beq_false_of_ne (Ne.symm hb)
        simp only [h1, hxb ▸ h1, if_neg hb] at ih ⊢
        exact ih
    · rw [if_neg hx]
      cases hxb' : (x.1 == b') with
      | true =>
        have : b' ≠ b := fun e => hx (e ▸ hxb')
        simp [this]
      | false => exact ih

theorem getRefs_mem {s : SeqState} {b : Basis} {l : List QRef} (h : s.getRefs b = some l) :
    (b, l) ∈ s.refs := by
  unfold SeqState.getRefs at h
  obtain ⟨p, hp, rfl⟩ := Option.map_eq_some_iff.mp h
  have : p.1 = b := by simpa using List.find?_some hp
  exact this ▸ List.mem_of_find?_eq_some hp

theorem getRefs_mapRefs (s : SeqState) (b : Basis) (qs : List Nat) (f : QRef → QRef) (b' : Basis) :
    (s.mapRefs b qs f).getRefs b' =
      if b' = b then (s.getRefs b).map fun l =>
        (List.zipIdx l).map fun (r, i) => if qs.contains i then f r else r
      else s.getRefs b' := by
  unfold SeqState.mapRefs
  by_cases hb : b' = b
  · subst hb
    rw [if_pos rfl]
    cases hg : s.getRefs b' with
    | none => exact hg
    | some l => exact (getRefs_setRefs ..).trans (by rw [if_pos rfl, hg]; rfl)
  · rw [if_neg hb]
    cases s.getRefs b with
    | none => rfl
    | some l => exact (getRefs_setRefs ..).trans (if_neg hb)

theorem mapRefs_eq (s : SeqState) (b : Basis) (qs : List Nat) (f : QRef → QRef) :
    s.mapRefs b qs f = { s with refs := (s.mapRefs b qs f).refs } := by
  unfold SeqState.mapRefs
  cases s.getRefs b <;> rfl

theorem mapRefs_chans (s : SeqState) (b : Basis) (qs : List Nat) (f : QRef → QRef) :
    (s.mapRefs b qs f).chans = s.chans ∧ (s.mapRefs b qs f).dev = s.dev ∧
    (s.mapRefs b qs f).nQ = s.nQ := by
  rw [mapRefs_eq]; exact ⟨rfl, rfl, rfl⟩

theorem ensureBasis_eq (s : SeqState) (b : Basis) :
    s.ensureBasis b = { s with refs := (s.ensureBasis b).refs } := by
  unfold SeqState.ensureBasis
  split <;> rfl

theorem addChannel_eq (s : SeqState) (c : ChanState) :
    s.addChannel c = { s with chans := s.chans ++ [c], refs := (s.addChannel c).refs,
                              inXY := (s.addChannel c).inXY, inIsing := (s.addChannel c).inIsing } := by
  unfold SeqState.addChannel
  cases (c.cfg.basis == .xy) <;> rw [ensureBasis_eq] <;> rfl

theorem ensureBasis_refs (s : SeqState) (b : Basis) :
    ((s.ensureBasis b).refs = s.refs ∧ s.refs.any (·.1 == b) = true) ∨
    (s.ensureBasis b).refs = s.refs ++ [(b, List.replicate s.nQ ({} : QRef))] := by
  unfold SeqState.ensureBasis
  by_cases ha : s.refs.any (·.1 == b) = true
  · rw [if_pos ha]; exact .inl ⟨rfl, ha⟩
  · rw [if_neg ha]; exact .inr rfl

/-- The phase references after a declaration: as before, where the basis of the new channel is
addressed already; with fresh references for that basis at the end otherwise. -/
theorem addChannel_refs (s : SeqState) (c : ChanState) :
    ((s.addChannel c).refs = s.refs ∧ s.refs.any (·.1 == c.cfg.basis) = true) ∨
    (s.addChannel c).refs = s.refs ++ [(c.cfg.basis, List.replicate s.nQ ({} : QRef))] := by
  unfold SeqState.addChannel
  cases (c.cfg.basis == .xy) <;> exact ensureBasis_refs _ _

/-- An oracle answer leaves every channel in its place and gives at most one of them one more
answer: a relation that holds between a channel and itself, and between a channel and the same with
one more answer, holds between the channels before and after, by position and by membership. -/
theorem injectOracle_rel {R : ChanState → ChanState → Prop} (hrefl : ∀ c, R c c)
    (ho : ∀ c e, R c { c with ddOracle := e :: c.ddOracle }) (s : SeqState) (n : ChName) (d : Rat)
    (du fs fe : Nat) :
    (∀ (i : Nat) (c : ChanState), s.chans[i]? = some c →
      ∃ c', (s.injectOracle n d du fs fe).chans[i]? = some c' ∧ R c c') ∧
    (∀ c' ∈ (s.injectOracle n d du fs fe).chans, ∃ c ∈ s.chans, R c c') ∧
    (s.injectOracle n d du fs fe).chans.length = s.chans.length := by
  have hg : ∀ c : ChanState, R c (if c.name == n then
      { c with ddOracle := ((d, du), (fs, fe)) :: c.ddOracle } else c) := by
    intro c
    by_cases h : (c.name == n) = true
    · rw [if_pos h]; exact ho c _
    · rw [if_neg h]; exact hrefl c
  refine ⟨fun i c hc => ⟨_, ?_, hg c⟩, fun c' hc' => ?_, List.length_map _⟩
  · show (s.chans.map _)[i]? = _
    rw [List.getElem?_map, hc]; rfl
  · obtain ⟨c, hc, rfl⟩ := List.mem_map.mp hc'
    exact ⟨c, hc, hg c⟩

theorem validateChannel_ok {s : SeqState} {n : ChName} {b : Bool} {c : ChanState}
    (h : s.validateChannel n b = .ok c) : s.getChan n = some c ∧ (b = true → c.inEomMode = false) := by
  unfold SeqState.validateChannel at h
  cases hg : s.getChan n with
  | none => simp [hg] at h
  | some c0 =>
    simp only [hg] at h
    split at h
    · cases h
    · rename_i hne
      injection h with h; subst h
      refine ⟨rfl, fun hb => ?_⟩
      subst hb
      simpa using hne

theorem estimateCore_st (s : SeqState) (p : PulseIn) (c : ChanState) (proto : Protocol) :
    (estimateCore s p c proto).st = s := by
  unfold estimateCore
  split
  · rfl
  · simp only
    split
    · rfl
    · split
      · rfl
      · split <;> rfl

theorem SeqState.init_all (dev : Device) (nQ : Nat) {P : ChanState → Prop} :
    ∀ c ∈ (SeqState.init dev nQ).chans, P c := fun _ h => nomatch h

/-- **`_phase_shift`** is refused (no reference for the basis, or an atom outside the register)
or increments the references of its targets — of every atom when none is given. -/
theorem phaseShift_cases (s : SeqState) (phi : Rat) (qs : List Nat) (b : Basis) :
    s.phaseShift phi qs b = fail s .noBasis ∨ s.phaseShift phi qs b = fail s .unknownQubit ∨
    ((s.getRefs b).isNone = false ∧ s.phaseShift phi qs b =
      done (s.mapRefs b (if qs.isEmpty then s.allQubits else qs) (·.incrementPhase phi))) := by
  unfold SeqState.phaseShift
  by_cases h1 : (s.getRefs b).isNone = true
  · rw [if_pos h1]; exact .inl rfl
  · rw [if_neg h1]
    simp only
    generalize (if qs.isEmpty then s.allQubits else qs) = qs'
    by_cases h2 : (qs'.any (· ≥ s.nQ)) = true
    · rw [if_pos h2]; exact .inr (.inl rfl)
    · rw [if_neg h2]; exact .inr (.inr ⟨Bool.eq_false_iff.mpr h1, rfl⟩)

/-! ### A result as a whole and its parts -/

theorem store_err (op : Op) (r : Raw) : (store op r).err = r.err := by
  unfold store; cases h : r.err <;> simp [h]

theorem markNonEmpty_err (r : Raw) : (markNonEmpty r).err = r.err := by
  unfold markNonEmpty; cases h : r.err <;> simp [h]

theorem store_chans (op : Op) (r : Raw) : (store op r).st.chans = r.st.chans := by
  unfold store; cases r.err <;> rfl

theorem markNonEmpty_chans (r : Raw) : (markNonEmpty r).st.chans = r.st.chans := by
  unfold markNonEmpty; cases r.err <;> rfl

/-- A call that went through was not refused by the test it passed, and is what follows the test. -/
theorem Raw.guard_ok {c : Prop} [Decidable c] {s : SeqState} {e : Err} {r : Raw}
    (h : (if c then fail s e else r).err = none) : ¬c ∧ (if c then fail s e else r) = r := by
  by_cases hc : c
  · rw [if_pos hc] at h; cases h
  · exact ⟨hc, if_neg hc⟩

theorem Raw.bind_ok {r : Raw} {g : SeqState → Raw} (h : (r.bind g).err = none) :
    r.err = none ∧ r.bind g = g r.st := by
  unfold Raw.bind at h ⊢
  cases hr : r.err with
  | none => exact ⟨rfl, rfl⟩
  | some e => simp [hr] at h

/-! ### Closure of a relation between states -/

/-- Reflexive-transitive closure. -/
inductive Steps (P : SeqState → SeqState → Prop) : SeqState → SeqState → Prop
  | refl (s : SeqState) : Steps P s s
  | tail {a b c : SeqState} : Steps P a b → P b c → Steps P a c

namespace Steps
variable {P Q : SeqState → SeqState → Prop} {a b c : SeqState}

theorem single (h : P a b) : Steps P a b := .tail (.refl a) h

theorem trans (h1 : Steps P a b) (h2 : Steps P b c) : Steps P a c := by
  induction h2 with
  | refl => exact h1
  | tail _ h ih => exact .tail ih h

theorem mono (h : ∀ {a b}, P a b → Q a b) (hs : Steps P a b) : Steps Q a b := by
  induction hs with
  | refl => exact .refl _
  | tail _ hp ih => exact .tail ih (h hp)

/-- A preorder `R` that every step respects from states satisfying `I`, where `R a b` passes `I`
on from `a` to `b`, holds along `Steps`. -/
theorem lift {I : SeqState → Prop} {R : SeqState → SeqState → Prop} (hrefl : ∀ {s}, I s → R s s)
    (htrans : ∀ {a b c}, R a b → R b c → R a c) (hI : ∀ {a b}, I a → R a b → I b)
    (hstep : ∀ {a b}, I a → P a b → R a b) (hs : Steps P a b) (ha : I a) : R a b := by
  induction hs with
  | refl => exact hrefl ha
  | tail _ hp ih => exact htrans ih (hstep (hI ha ih) hp)

theorem keeps {I : SeqState → Prop} (hstep : ∀ {a b}, P a b → I a → I b) (hs : Steps P a b)
    (ha : I a) : I b := by
  induction hs with
  | refl => exact ha
  | tail _ hp ih => exact hstep hp ih

end Steps

/-! ### The primitive state changes -/

/-- How much of the state the body of a call may change: instructions, phase references and the
emptiness flag only (`target`, `add*`, `delay`, `align`, `phase_shift`), also the EOM mode of a
channel (the three EOM calls), or anything (`declare_channel`, `config_detuning_map`, `measure`). -/
inductive Width
  | slots | eom | all
  deriving DecidableEq

theorem Width.eom_ne : Width.eom ≠ .slots := nofun

def Op.width : Op → Width
  | .enableEom .. | .modifyEom .. | .disableEom .. => .eom
  | .declare .. | .configDetMap .. | .measure .. => .all
  | _ => .slots

/-- A pulse added while an EOM block is open is the block's square pulse (on a DMM channel,
which has no EOM, anything). -/
def EomShape (c : ChanState) (p : PulseIn) : Prop :=
  ∀ b, c.eom.getLast? = some b → b.tf = none →
    c.cfg.isDmm = true ∨ (p.const = true ∧ p.amp = b.amp ∧ p.det = b.detOn)

/-- One scheduler operation on a channel as `stepRaw` calls it, with the facts the call has
established before.  (`enable`, `hc`: the channel has an EOM, or — `modify_eom_setpoint`, which has
just closed a block — has had one.) -/
inductive ChanPrim (ms : Option Nat) (nQ : Nat) (w : Width) (c : ChanState) : ChanState → Prop
  | target (qs : List Nat) (hm : c.inEomMode = false) (hq : ∀ q ∈ qs, q < nQ) :
      ChanPrim ms nQ w c (addTarget ms c qs).c
  | wait {c'} (h : waitForFall ms c = .ok c') : ChanPrim ms nQ w c c'
  | delay {d c'} (h : addDelay ms c d = .ok c') : ChanPrim ms nQ w c c'
  | pulse {p ref pr others barriers proto drift c'} (hv : validateAndAdjust c p ref = .ok pr)
      (ha : addPulse ms c others pr barriers proto drift = .ok c') (he : EomShape c p) :
      ChanPrim ms nQ w c c'
  | enable (hw : w ≠ .slots) (amp detOn detOff : Rat) (sw : Bool) (hm : c.inEomMode = false)
      (hc : c.cfg.eom = none → c.eom ≠ []) :
      ChanPrim ms nQ w c (enableEom ms c amp detOn detOff false sw).c
  | disable (hw : w ≠ .slots) (sb : Bool) (hm : c.inEomMode = true) :
      ChanPrim ms nQ w c (disableEom ms c sb).c

/-- One state change of the body of a call (everything but the record entry). -/
inductive Prim (w : Width) (s : SeqState) : SeqState → Prop
  | chan {n c c'} (hc : s.getChan n = some c) (h : ChanPrim s.dev.maxSeqDur s.nQ w c c') :
      Prim w s (s.setChan c')
  | shift (phi : Rat) (qs : List Nat) (b : Basis) : Prim w s (s.mapRefs b qs (·.incrementPhase phi))
  | used (t : Int) (qs : List Nat) (b : Basis) : Prim w s (s.mapRefs b qs (·.updateLastUsed t))
  | nonEmpty : Prim w s { s with empty := false }
  | declare (hw : w = .all) {cfg} (hcfg : cfg ∈ s.dev.chans ∨ cfg ∈ s.dev.dmms)
      (name : ChName) (chId : Nat) (tg : Bool) (a b : Rat) :
      Prim w s (s.addChannel (SeqState.freshChan name chId cfg s.allQubits tg a b))
  | measure (hw : w = .all) (b : Basis) : Prim w s { s with measured := some b }

theorem ChanPrim.widen {ms nQ w c c'} (h : ChanPrim ms nQ w c c') : ChanPrim ms nQ .all c c' := by
  cases h with
  | target qs hm hq => exact .target qs hm hq
  | wait h => exact .wait h
  | delay h => exact .delay h
  | pulse hv ha he => exact .pulse hv ha he
  | enable _ amp detOn detOff sw hm hc => exact .enable (by decide) amp detOn detOff sw hm hc
  | disable _ sb hm => exact .disable (by decide) sb hm

theorem Prim.widen {w s s'} (h : Prim w s s') : Prim .all s s' := by
  cases h with
  | chan hc h => exact .chan hc h.widen
  | shift phi qs b => exact .shift phi qs b
  | used t qs b => exact .used t qs b
  | nonEmpty => exact .nonEmpty
  | declare _ hcfg name chId tg a b => exact .declare rfl hcfg name chId tg a b
  | measure _ b => exact .measure rfl b

/-- `s'` has the same call record, device and register size as `s`. -/
def Meta (s s' : SeqState) : Prop := s'.calls = s.calls ∧ s'.dev = s.dev ∧ s'.nQ = s.nQ

theorem Prim.frame {w s s'} (h : Prim w s s') : Meta s s' := by
  cases h with
  | chan => exact ⟨rfl, rfl, rfl⟩
  | shift | used => rw [mapRefs_eq]; exact ⟨rfl, rfl, rfl⟩
  | nonEmpty => exact ⟨rfl, rfl, rfl⟩
  | declare => rw [addChannel_eq]; exact ⟨rfl, rfl, rfl⟩
  | measure => exact ⟨rfl, rfl, rfl⟩

theorem Steps.frame {w s s'} (h : Steps (Prim w) s s') : Meta s s' := by
  induction h with
  | refl => exact ⟨rfl, rfl, rfl⟩
  | tail _ hp ih =>
    have := hp.frame
    exact ⟨this.1.trans ih.1, this.2.1.trans ih.2.1, this.2.2.trans ih.2.2⟩

/-! ### Results reached by primitives -/

/-- The state of `r` is reached from `s` by primitives. -/
def Via (w : Width) (s : SeqState) (r : Raw) : Prop := Steps (Prim w) s r.st

/-- Raw results whose state has the same call record, device and register size as `s`: every
result reached by primitives (`Steps.frame`). -/
def KeepsCalls (s : SeqState) (r : Raw) : Prop := Meta s r.st

theorem kc_done {s s' : SeqState} (h : Meta s s') : KeepsCalls s (done s') := h

variable {w : Width} {s : SeqState}

theorem Via.fail (e : Err) : Via w s (fail s e) := .refl s

/-- (Handing `h` over as it is checks slowly where `s'` is a large term, `s.addChannel …`: the unifier
unfolds it before it unfolds `done`.) -/
theorem Via.done {s' : SeqState} (h : Steps (Prim w) s s') : Via w s (done s') := h

theorem Via.ite {c : Prop} [Decidable c] {a b : Raw} (ha : c → Via w s a) (hb : ¬c → Via w s b) :
    Via w s (if c then a else b) := by
  by_cases hc : c
  · rw [if_pos hc]; exact ha hc
  · rw [if_neg hc]; exact hb hc

theorem Via.guard {c : Prop} [Decidable c] {e : Err} {r : Raw} (h : ¬c → Via w s r) :
    Via w s (if c then Pulser.fail s e else r) := .ite (fun _ => .fail e) h

theorem Via.orRollback {r : Raw} (h : Via w s r) : Via w s (r.orRollback s) := by
  rcases Raw.orRollback_cases r s with e | ⟨e, he⟩
  · rw [e]; exact h
  · rw [he]; exact .fail e

theorem Via.bind {r : Raw} {g : SeqState → Raw} (hr : Via w s r) (hg : ∀ s1, Via w s1 (g s1)) :
    Via w s (r.bind g) := by
  unfold Raw.bind
  cases r.err with
  | none => exact Steps.trans hr (hg _)
  | some e => exact hr

theorem Via.markNonEmpty {r : Raw} (h : Via w s r) : Via w s (markNonEmpty r) := by
  unfold Pulser.markNonEmpty
  cases r.err with
  | none => exact .tail h .nonEmpty
  | some e => exact h

theorem Via.withChan {n : ChName} {f : ChanState → CRes} {c : ChanState} (hc : s.getChan n = some c)
    (hf : ChanPrim s.dev.maxSeqDur s.nQ w c (f c).c) : Via w s (s.withChan n f) := by
  unfold SeqState.withChan
  rw [hc]
  exact .single (.chan hc hf)

theorem Via.withChan_lift {n : ChName} {f : ChanState → Except Err ChanState}
    (hf : ∀ c c', f c = .ok c' → ChanPrim s.dev.maxSeqDur s.nQ w c c') :
    Via w s (s.withChan n fun c => CRes.lift c (f c)) := by
  unfold SeqState.withChan
  cases hc : s.getChan n with
  | none => exact .fail _
  | some c =>
    simp only
    cases h : f c with
    | error e => rw [show (CRes.lift c (.error e)).c = c from rfl, setChan_self hc]; exact .refl s
    | ok c' => exact .single (.chan hc (hf c c' h))

theorem Via.phaseShift (phi : Rat) (qs : List Nat) (b : Basis) : Via w s (s.phaseShift phi qs b) := by
  rcases phaseShift_cases s phi qs b with h | h | ⟨_, h⟩ <;> rw [h]
  · exact .fail _
  · exact .fail _
  · exact .single (.shift phi _ b)

theorem targetCore_via (qs : List Nat) (n : ChName) : Via w s (targetCore s qs n) := by
  unfold targetCore
  apply Via.guard; intro _
  cases hv : s.validateChannel n true with
  | error e => exact .fail _
  | ok c0 =>
    apply Via.guard; intro _
    apply Via.guard; intro _
    apply Via.guard; intro _
    apply Via.guard; intro h4
    apply Via.guard; intro _
    refine .withChan (validateChannel_ok hv).1 (.target qs ((validateChannel_ok hv).2 rfl) fun q hq => ?_)
    exact Nat.lt_of_not_ge fun hge => h4 (List.any_eq_true.mpr ⟨q, hq, decide_eq_true hge⟩)

theorem delayCore_via (d : Int) (n : ChName) (atRest : Bool) : Via w s (delayCore s d n atRest) := by
  unfold delayCore
  apply Via.guard; intro _
  cases s.validateChannel n false with
  | error e => exact .fail _
  | ok _ =>
    refine Via.bind ?_ fun s1 => ?_
    · cases atRest with
      | true => exact Via.withChan_lift fun c c' h => .wait h
      | false => exact .refl s
    · refine .ite (fun _ => .refl s1) fun _ => Via.withChan_lift fun c c' h => ?_
      by_cases hneg : d < 0
      · rw [if_pos hneg] at h
        cases hl : c.last <;> simp [hl, bind, Except.bind] at h
      · rw [if_neg hneg] at h; exact .delay h

theorem delayChecked_via (d : Int) (n : ChName) (atRest : Bool) :
    Via w s (delayChecked s d n atRest) := by
  rcases delayChecked_cases s d n atRest with h | ⟨e, h⟩ <;> rw [h]
  · exact delayCore_via d n atRest
  · exact .fail e

theorem alignLoop_via (tf : Int) (l : List (ChName × Int)) : Via w s (alignLoop tf l s) := by
  induction l generalizing s with
  | nil => exact .refl s
  | cons a rest ih =>
    obtain ⟨n, t⟩ := a
    unfold alignLoop
    cases s.getChan n with
    | none => exact .fail _
    | some c =>
      refine .ite (fun _ => ?_) fun _ => ih
      cases c.adjust (tf - c.getDuration false).toNat with
      | error e => exact .fail _
      | ok d => exact Via.bind (delayCore_via _ _ _) fun _ => ih

/-- The drift correction that ends `enable_eom_mode` and `modify_eom_setpoint`: one phase shift on
the targets of the buffer, a refusal, or nothing. -/
theorem Via.driftShift {n : ChName} {corr : Bool} {f : Slot → Rat} {b : Basis} :
    Via w s (if corr = true then
        match (s.getChan n).bind (·.slots.getLast?) with
        | some buf => s.phaseShift (f buf) buf.targets b
        | none => Pulser.fail s .noTarget
      else Pulser.done s) := by
  refine .ite (fun _ => ?_) fun _ => .refl s
  cases (s.getChan n).bind (·.slots.getLast?) with
  | some buf => exact Via.phaseShift _ _ _
  | none => exact .fail _

/-- The same at the end of `disable_eom_mode`, where the shift is computed from the channel. -/
theorem Via.driftShiftOff {n : ChName} {corr : Bool} {f : ChanState → Slot → Rat} {b : Basis} :
    Via w s (if corr = true then
        match s.getChan n with
        | none => Pulser.fail s .notDeclared
        | some c1 =>
          match c1.slots.getLast? with
          | some l => s.phaseShift (f c1 l) l.targets b
          | none => Pulser.fail s .noTarget
      else Pulser.done s) := by
  refine .ite (fun _ => ?_) fun _ => .refl s
  cases s.getChan n with
  | none => exact .fail _
  | some c1 =>
    simp only
    cases c1.slots.getLast? with
    | some l => exact Via.phaseShift _ _ _
    | none => exact .fail _

/-- `_add`, once: it refuses before anything is changed, or appends the validated pulse to the
channel, marks the references of its targets as used and ends with the optional phase shift. -/
theorem addCore_cases (p : PulseIn) (n : ChName) (proto : Option Protocol) (drift : Option Drift) :
    (∃ e, addCore s p n proto drift = fail s e) ∨
    ∃ (pr0 : Protocol) (c c' : ChanState) (last slot : Slot) (pr : PulseRec),
      proto = some pr0 ∧ s.getChan n = some c ∧ c.last = .ok last ∧
      validateAndAdjust c p (if c.cfg.isDmm = true then none else
        (s.lastPhases c.cfg.basis last.targets).head?) = .ok pr ∧
      addPulse s.dev.maxSeqDur c (s.others n) pr (s.lastTimes c.cfg.basis last.targets) pr0 drift
        = .ok c' ∧
      c'.last = .ok slot ∧
      addCore s p n proto drift =
        if totalShift pr.post drift slot.ti ≠ 0 then
          ((s.setChan c').mapRefs c.cfg.basis last.targets (·.updateLastUsed slot.tf)).phaseShift
            (totalShift pr.post drift slot.ti) last.targets c.cfg.basis
        else done ((s.setChan c').mapRefs c.cfg.basis last.targets (·.updateLastUsed slot.tf)) := by
  -- the result is named, so that the definition is walked through in one place only (`simp only [h]`
  -- where the scrutinee stands under the binder of the match before it, `rw [h]` where it does not)
  generalize hr : addCore s p n proto drift = r
  unfold addCore at hr
  cases proto with
  | none => exact .inl ⟨_, hr.symm⟩
  | some pr0 =>
    cases hc : s.getChan n with
    | none => rw [hc] at hr; exact .inl ⟨_, hr.symm⟩
    | some c =>
      rw [hc] at hr
      cases hl : c.last with
      | error e => simp only [hl] at hr; exact .inl ⟨_, hr.symm⟩
      | ok last =>
        simp only [hl] at hr
        by_cases hg : (!c.cfg.isDmm && !allSame (s.lastPhases c.cfg.basis last.targets)) = true
        · rw [if_pos hg] at hr; exact .inl ⟨_, hr.symm⟩
        · rw [if_neg hg] at hr
          cases hpr : validateAndAdjust c p (if c.cfg.isDmm = true then none else
            (s.lastPhases c.cfg.basis last.targets).head?) with
          | error e => rw [hpr] at hr; exact .inl ⟨_, hr.symm⟩
          | ok pr =>
            rw [hpr] at hr
            cases hadd : addPulse s.dev.maxSeqDur c (s.others n) pr
                (s.lastTimes c.cfg.basis last.targets) pr0 drift with
            | error e => simp only [hadd] at hr; exact .inl ⟨_, hr.symm⟩
            | ok c' =>
              obtain ⟨slot, _, hsl⟩ := addPulse_last hadd
              simp only [hadd, hsl] at hr
              exact .inr ⟨pr0, c, c', last, slot, pr, rfl, rfl, hl, hpr, hadd, hsl, hr.symm⟩

/-- `_add` after the channel has been validated, for a pulse that fits the channel's EOM mode. -/
theorem addCore_via {p : PulseIn} {n : ChName} {c : ChanState} (proto : Option Protocol)
    (drift : Option Drift) (hc : s.getChan n = some c) (hp : EomShape c p) :
    Via w s (addCore s p n proto drift) := by
  rcases addCore_cases p n proto drift with ⟨e, h⟩ | ⟨_, c0, c', last, slot, pr, _, hc0, _, hpr, hadd, _, h⟩
  · rw [h]; exact .fail e
  · cases hc.symm.trans hc0
    rw [h]
    have h2 : Steps (Prim w) s ((s.setChan c').mapRefs c.cfg.basis last.targets (·.updateLastUsed slot.tf)) :=
      .tail (.single (.chan hc (.pulse hpr hadd hp))) (.used slot.tf last.targets c.cfg.basis)
    exact .ite (fun _ => h2.trans (Via.phaseShift _ _ _)) fun _ => h2

/-! ### The shape of a call -/

def Op.isQuery : Op → Bool
  | .getDuration .. | .estimate .. | .phaseRef .. => true
  | _ => false

/-- `r` is a body, stored as `op'`, and the state of the body is reached by primitives. -/
def Stored (w : Width) (op' : Op) (s : SeqState) (r : Raw) : Prop :=
  ∃ body, r = store op' body ∧ Via w s body

variable {op' : Op}

theorem Stored.store {r : Raw} (h : Via w s r) : Stored w op' s (store op' r) := ⟨r, rfl, h⟩

theorem Stored.fail (e : Err) : Stored w op' s (fail s e) := ⟨_, rfl, .fail e⟩

theorem Stored.orRollback {r : Raw} (h : Stored w op' s r) : Stored w op' s (r.orRollback s) := by
  obtain ⟨body, rfl, hv⟩ := h
  refine ⟨body.orRollback s, ?_, hv.orRollback⟩
  unfold Raw.orRollback Pulser.store
  cases h : body.err with
  | none => simp only [h]
  | some e => simp only [h]; rfl

theorem Stored.bind {r : Raw} {g : SeqState → Raw} (hr : Via w s r)
    (hg : ∀ s1, Stored w op' s1 (g s1)) : Stored w op' s (r.bind g) := by
  unfold Raw.bind
  cases h : r.err with
  | none =>
    obtain ⟨body, e, hv⟩ := hg r.st
    exact ⟨body, e, Steps.trans hr hv⟩
  | some e => exact ⟨r, by simp only [Pulser.store, h], hr⟩

/-- A channel step followed by a continuation that may rely on what the step produced. -/
theorem Stored.withChan_bind {n : ChName} {f : ChanState → CRes} {g : SeqState → Raw} {c : ChanState}
    (hc : s.getChan n = some c) (hf : ChanPrim s.dev.maxSeqDur s.nQ w c (f c).c)
    (hg : (f c).err = none → Stored w op' (s.setChan (f c).c) (g (s.setChan (f c).c))) :
    Stored w op' s ((s.withChan n f).bind g) := by
  have hw : s.withChan n f = ⟨s.setChan (f c).c, (f c).err, none⟩ := by
    unfold SeqState.withChan; rw [hc]
  have h1 : Steps (Prim w) s (s.setChan (f c).c) := .single (.chan hc hf)
  rw [hw]
  unfold Raw.bind
  cases herr : (f c).err with
  | some e => exact ⟨⟨s.setChan (f c).c, some e, none⟩, rfl, h1⟩
  | none =>
    obtain ⟨body, e, hv⟩ := hg herr
    exact ⟨body, e, h1.trans hv⟩

/-- `modify_eom_setpoint` after validation: the open block is closed, then (not in EOM mode any
more, and with its blocks) a new one is opened. -/
theorem modifyEomCommit_stored {n : ChName} {c : ChanState} (e : EomIn) (detOff : Rat)
    (hgc : s.getChan n = some c) (hin : c.inEomMode = true) :
    Stored .eom (.modifyEom n { e with optimal := detOff }) s (modifyEomCommit s n c e detOff) := by
  unfold modifyEomCommit
  refine .withChan_bind hgc (.disable Width.eom_ne true hin) fun herr => ?_
  have hmode1 := disableEom_mode hin herr
  generalize hc1 : (disableEom s.dev.maxSeqDur c true).c = c1 at hmode1
  have hget1 : (s.setChan c1).getChan n = some c1 :=
    getChan_setChan_same hgc (by rw [← hc1, disableEom_name]; exact (getChan_mem hgc).2)
  simp only [hget1]
  exact .withChan_bind hget1 (.enable Width.eom_ne _ _ _ _ hmode1.1 fun _ => hmode1.2) fun _ =>
    .store Via.driftShift

/-- What is stored for a call: the call itself, or for `enable_eom_mode` and `modify_eom_setpoint`
the call with the off-detuning that was chosen as its `optimal_detuning_off`. -/
inductive StoredAs (s : SeqState) : Op → Op → Prop
  | self (op : Op) : StoredAs s op op
  | enable {n e c d} (hv : s.validateChannel n false = .ok c) (hp : processEomParams c e = .ok d) :
      StoredAs s (.enableEom n e) (.enableEom n { e with optimal := d })
  | modify {n e c d} (hv : s.validateChannel n false = .ok c) (hp : processEomParams c e = .ok d) :
      StoredAs s (.modifyEom n e) (.modifyEom n { e with optimal := d })

/-- `r` is the body of `op`, stored: the body changes what a call of its kind may change. -/
def StoredCall (s : SeqState) (op : Op) (r : Raw) : Prop :=
  ∃ op', Stored op.width op' s r ∧ StoredAs s op op'

theorem StoredCall.self {op : Op} {r : Raw} (h : Stored op.width op s r) : StoredCall s op r :=
  ⟨op, h, .self op⟩

theorem StoredCall.guard {op : Op} {c : Prop} [Decidable c] {e : Err} {r : Raw} (h : ¬c → StoredCall s op r) :
    StoredCall s op (if c then fail s e else r) := by
  by_cases hc : c
  · rw [if_pos hc]; exact .self (.fail e)
  · rw [if_neg hc]; exact h hc

/-- **Every call is its body, stored**; the state of the body is reached by the primitives of the
call's width.  Queries change nothing. -/
theorem stepRaw_shape (s : SeqState) (op : Op) :
    (op.isQuery = true ∧ (stepRaw s op).st = s) ∨ (op.isQuery = false ∧ StoredCall s op (stepRaw s op)) := by
  cases op with
  | declare name chId init =>
    refine .inr ⟨rfl, ?_⟩
    apply StoredCall.guard; intro _
    cases name with
    | dmm _ _ => exact .self (.fail _)
    | user u =>
      apply StoredCall.guard; intro _
      cases hcfg : s.dev.chans[chId]? with
      | none => exact .self (.fail _)
      | some cfg =>
        simp only
        by_cases hav : (!s.available false chId cfg) = true
        · rw [if_pos hav]; exact .guard fun _ => .guard fun _ => .self (.fail _)
        rw [if_neg hav]
        refine .self (.store ?_)
        have h1 : Steps (Prim .all) s (s.addChannel
            (SeqState.freshChan (.user u) chId cfg s.allQubits (!cfg.isLocal) 1 1)) :=
          .single (.declare rfl (.inl (List.mem_of_getElem? hcfg)) _ _ _ _ _)
        refine .ite (fun _ => .done h1) fun _ => ?_
        cases init with
        | none => exact .done h1
        | some qs => exact Via.orRollback (h1.trans (targetCore_via _ _))
  | configDetMap dmmId maxW sumW =>
    refine .inr ⟨rfl, ?_⟩
    apply StoredCall.guard; intro _
    cases hcfg : s.dev.dmms[dmmId]? with
    | none => exact .self (.fail _)
    | some cfg =>
      apply StoredCall.guard; intro _
      apply StoredCall.guard; intro _
      exact .self (.store (.done (.single (.declare rfl (.inr (List.mem_of_getElem? hcfg)) _ _ _ _ _))))
  | target qs n => exact .inr ⟨rfl, .self (.store (targetCore_via qs n).orRollback)⟩
  | add p n proto =>
    refine .inr ⟨rfl, .self (.store (.markNonEmpty ?_))⟩
    apply Via.guard; intro _
    cases hv : s.validateChannel n true with
    | error e => exact .fail _
    | ok c =>
      apply Via.guard; intro _
      exact addCore_via _ _ (validateChannel_ok hv).1 fun b hb ho =>
        absurd ho (inEomMode_false ((validateChannel_ok hv).2 rfl) hb)
  | addDmm p n proto =>
    refine .inr ⟨rfl, .self (.store (.markNonEmpty ?_))⟩
    apply Via.guard; intro _
    cases hv : s.validateChannel n false with
    | error e => exact .fail _
    | ok c =>
      apply Via.guard; intro hdmm
      exact addCore_via _ _ (validateChannel_ok hv).1 fun b _ _ => .inl (by simpa using hdmm)
  | addEom n dur phase post proto corr fs fe ref =>
    refine .inr ⟨rfl, .self (.store (.markNonEmpty ?_))⟩
    apply Via.guard; intro _
    cases hv : s.validateChannel n false with
    | error e => exact .fail _
    | ok c =>
      simp only
      cases hg : c.eom.getLast? with
      | none => exact .fail _
      | some b =>
        apply Via.guard; intro _
        refine addCore_via _ _ (validateChannel_ok hv).1 fun b' hb' _ => .inr ?_
        cases hg.symm.trans hb'
        exact ⟨rfl, rfl, rfl⟩
  | delay d n atRest => exact .inr ⟨rfl, .self (.store (delayChecked_via d n atRest).orRollback)⟩
  | align chs atRest =>
    refine .inr ⟨rfl, .self (.store (.orRollback ?_))⟩
    apply Via.guard; intro _
    apply Via.guard; intro _
    apply Via.guard; intro _
    apply Via.guard; intro _
    simp only
    split
    · exact .refl s
    · exact alignLoop_via _ _
  | phaseShift phi qs b => exact .inr ⟨rfl, .self (.store (Via.phaseShift phi qs b))⟩
  | enableEom n e =>
    refine .inr ⟨rfl, ?_⟩
    apply StoredCall.guard; intro _
    cases hv : s.validateChannel n false with
    | error er => exact .self (.fail _)
    | ok c =>
      apply StoredCall.guard; intro hmode
      apply StoredCall.guard; intro hcfg
      cases hp : processEomParams c e with
      | error er => exact .self (.fail _)
      | ok detOff =>
        refine ⟨_, .orRollback ?_, .enable hv hp⟩
        unfold enableEomCommit
        refine .bind (.withChan (validateChannel_ok hv).1 (.enable Width.eom_ne _ _ _ _
          (by simpa using hmode) fun h0 => by rw [h0] at hcfg; simp at hcfg)) fun s1 => .store Via.driftShift
  | modifyEom n e =>
    refine .inr ⟨rfl, ?_⟩
    apply StoredCall.guard; intro _
    cases hv : s.validateChannel n false with
    | error er => exact .self (.fail _)
    | ok c =>
      apply StoredCall.guard; intro hmode
      cases hp : processEomParams c e with
      | error er => exact .self (.fail _)
      | ok detOff =>
        exact ⟨_, .orRollback (modifyEomCommit_stored e detOff (validateChannel_ok hv).1
          (by simpa using hmode)), .modify hv hp⟩
  | disableEom n corr =>
    refine .inr ⟨rfl, .self (.store (.orRollback ?_))⟩
    apply Via.guard; intro _
    cases hv : s.validateChannel n false with
    | error er => exact .fail _
    | ok c =>
      apply Via.guard; intro hmode
      refine .bind (.withChan (validateChannel_ok hv).1
        (.disable Width.eom_ne _ (by simpa using hmode))) fun s1 => Via.driftShiftOff
  | measure b =>
    refine .inr ⟨rfl, .self (.store ?_)⟩
    apply Via.guard; intro _
    apply Via.guard; intro _
    exact .done (.single (.measure rfl b))
  | getDuration | estimate | phaseRef =>
    -- every branch is a result whose state is `s` as it stands, or `estimateCore`
    refine .inl ⟨rfl, ?_⟩
    simp only [stepRaw]
    repeat' split
    all_goals first | rfl | exact estimateCore_st _ _ _ _

/-! ### Whole calls and whole histories -/

/-- What one event of a history does to the state: the primitives of a call's body, the record
entry of a successful call, an oracle answer. -/
inductive Move (w : Width) (s : SeqState) : SeqState → Prop
  | prim {s'} (h : Prim w s s') : Move w s s'
  | record (op : Op) : Move w s { s with calls := s.calls ++ [op] }
  | oracle (n : ChName) (detOff : Rat) (dur fs fe : Nat) : Move w s (s.injectOracle n detOff dur fs fe)

theorem Move.widen {s s' : SeqState} (h : Move w s s') : Move .all s s' := by
  cases h with
  | prim h => exact .prim h.widen
  | record op => exact .record op
  | oracle n d du fs fe => exact .oracle n d du fs fe

theorem Stored.moves {r : Raw} (h : Stored w op' s r) : Steps (Move w) s r.st := by
  obtain ⟨body, rfl, hv⟩ := h
  have hb : Steps (Move w) s body.st := hv.mono .prim
  unfold Pulser.store
  cases body.err with
  | none => exact .tail hb (.record op')
  | some e => exact hb

theorem Stored.record {r : Raw} (h : Stored w op' s r) (hok : r.err = none) :
    r.st.calls = s.calls ++ [op'] ∧ r.st.dev = s.dev ∧ r.st.nQ = s.nQ := by
  obtain ⟨body, rfl, hv⟩ := h
  have hf := Steps.frame hv
  unfold Pulser.store at hok ⊢
  cases hb : body.err with
  | none => simp only; exact ⟨by rw [hf.1], hf.2.1, hf.2.2⟩
  | some e => simp [hb] at hok

theorem stepRaw_moves (s : SeqState) (op : Op) : Steps (Move op.width) s (stepRaw s op).st := by
  rcases stepRaw_shape s op with ⟨_, h⟩ | ⟨_, _, h, _⟩
  · rw [h]; exact .refl s
  · exact h.moves

theorem run_append (s : SeqState) (a b : List Op) : run s (a ++ b) = run (run s a) b := by
  unfold run
  rw [List.foldl_append]

theorem runEv_calls (s : SeqState) (ops : List Op) : runEv s (ops.map Ev.call) = run s ops := by
  induction ops generalizing s with
  | nil => rfl
  | cons op rest ih => exact ih _

theorem runEv_moves (s : SeqState) (evs : List Ev) : Steps (Move .all) s (runEv s evs) := by
  induction evs generalizing s with
  | nil => exact .refl s
  | cons ev rest ih =>
    refine Steps.trans ?_ (ih (stepEv s ev))
    cases ev with
    | call op => exact (stepRaw_moves s op).mono .widen
    | oracle n d du fs fe => exact .single (.oracle n d du fs fe)

end Pulser
