/-
  Proofs.Waveform — helper lemmas for C16 (waveforms and pulses over ℚ).
  Model: PulserModel/Waveform.lean.
-/
import Mathlib.Tactic.Ring
import Mathlib.Tactic.Linarith
import Mathlib.Tactic.FieldSimp
import Mathlib.Algebra.Order.Field.Basic
import PulserModel.Waveform
namespace Pulser
namespace Wave

theorem toNat_eq_iff {x : Int} (h : 0 ≤ x) (n : Nat) : x.toNat = n ↔ (n : Int) = x :=
  ⟨fun e => e ▸ Int.toNat_of_nonneg h, fun e => e ▸ Int.toNat_natCast n⟩

theorem pyAdjust_range (d : Nat) (x : Option Int) (dflt : Int) (h : 0 ≤ dflt ∧ dflt ≤ d) :
    0 ≤ pyAdjust d x dflt ∧ pyAdjust d x dflt ≤ d := by
  unfold pyAdjust; cases x <;> simp only <;> omega

theorem pyAdjust_natCast (d : Nat) {s : Nat} (dflt : Int) (h : s ≤ d) :
    pyAdjust d (some (s : Int)) dflt = s := by
  unfold pyAdjust; simp only; omega

theorem pyAdjust_neg_natCast (d : Nat) {r : Nat} (dflt : Int) (h0 : 0 < r) (h : r ≤ d) :
    pyAdjust d (some (-(r : Int))) dflt = (d - r : Nat) := by
  unfold pyAdjust; simp only; omega

theorem clampLow_of_nonneg {x : Int} (h : 0 ≤ x) : clampLow x = x := if_neg (Int.not_lt.2 h)

theorem clampHigh_of_le {D x : Int} (h : x ≤ D) : clampHigh D x = x := if_neg (Int.not_lt.2 h)

/-- The three steps of `_check_slice` on one bound compute CPython's `PySlice_AdjustIndices`. -/
theorem adjust_eq (d : Nat) (x : Option Int) (dflt : Int) (h : 0 ≤ dflt ∧ dflt ≤ d) :
    clampHigh d (clampLow (sliceNorm d dflt x)) = pyAdjust d x dflt := by
  cases x with
  | none => exact (congrArg _ (clampLow_of_nonneg h.1)).trans (clampHigh_of_le h.2)
  | some v =>
    simp only [sliceNorm, pyAdjust]
    by_cases hv : v < 0
    · -- counted from the end: `d + v < d`, only the lower clamp can bite
      rw [if_neg (Int.not_le.2 hv), if_pos hv, Int.add_comm, clampLow]
      split
      · exact clampHigh_of_le (Int.natCast_nonneg d)
      · exact clampHigh_of_le (add_le_of_nonpos_left (Int.le_of_lt hv))
    · -- non-negative: only the upper clamp can bite, and at `v = d` it changes nothing
      rw [if_pos (Int.not_lt.1 hv), if_neg hv, clampLow_of_nonneg (Int.not_lt.1 hv), clampHigh]
      rcases Int.lt_trichotomy v d with h | rfl | h
      · rw [if_neg (Int.lt_asymm h), if_neg (Int.not_le.2 h)]
      · rw [if_neg (Int.lt_irrefl _), if_pos (Int.le_refl _)]
      · rw [if_pos h, if_pos (Int.le_of_lt h)]

theorem checkSlice_spec (d : Nat) (a b st : Option Int) (s e : Nat) :
    checkSlice d a b st = some (s, e) ↔
      (st = none ∨ st = some 1) ∧ (s : Int) = pyAdjust d a 0 ∧
      (e : Int) = max (pyAdjust d a 0) (pyAdjust d b d) := by
  have hA := pyAdjust_range d a 0 ⟨Int.le_refl 0, Int.natCast_nonneg d⟩
  simp only [checkSlice, adjust_eq d a 0 ⟨Int.le_refl 0, Int.natCast_nonneg d⟩,
    adjust_eq d b d ⟨Int.natCast_nonneg d, Int.le_refl d⟩]
  by_cases hst : st ≠ none ∧ st ≠ some 1
  · rw [if_pos hst]
    exact iff_of_false nofun fun h => h.1.elim hst.1 hst.2
  · -- `if stop < start: stop = start` takes the maximum; no bound is negative, so `toNat` loses nothing
    rw [if_neg hst, Option.some.injEq, Prod.mk.injEq,
      and_iff_right ((Decidable.not_and_iff_not_or_not.1 hst).imp Decidable.not_not.1 Decidable.not_not.1),
      ← max_def_lt, max_comm, toNat_eq_iff hA.1, toNat_eq_iff (Int.le_trans hA.1 (Int.le_max_left _ _))]

theorem sliceList_length {α} (l : List α) (s e : Nat) (h : e ≤ l.length) :
    (sliceList l s e).length = e - s := by
  rw [sliceList, List.length_take, List.length_drop, Nat.min_eq_left (Nat.sub_le_sub_right h s)]

theorem sliceList_getElem? {α} (l : List α) (s e k : Nat) (hk : k < e - s) :
    (sliceList l s e)[k]? = l[s + k]? := by
  unfold sliceList
  rw [List.getElem?_take_of_lt hk, List.getElem?_drop]

/-- The documented ramp: sample `i` is `start + i·(stop − start)/(d − 1)`. -/
def rampIdeal (d : Nat) (a b : Rat) : List Rat :=
  (List.range d).map fun (i : Nat) => a + (i : Rat) * (b - a) / ((d : Rat) - 1)

theorem clip_id {x lo hi : Rat} (h1 : lo ≤ x) (h2 : x ≤ hi) : clip x lo hi = x := by
  unfold clip; rw [max_eq_left h1, min_eq_left h2]

theorem lerp_between (a b : Rat) {t : Rat} (h0 : 0 ≤ t) (h1 : t ≤ 1) :
    min a b ≤ a + (b - a) * t ∧ a + (b - a) * t ≤ max a b := by
  rcases le_total a b with hab | hab
  · rw [min_eq_left hab, max_eq_right hab]
    have h := sub_nonneg.2 hab
    exact ⟨le_add_of_nonneg_right (mul_nonneg h h0),
      le_sub_iff_add_le'.1 (mul_le_of_le_one_right h h1)⟩
  · rw [min_eq_right hab, max_eq_left hab]
    have h := sub_nonpos.2 hab
    exact ⟨sub_le_iff_le_add'.1 (le_mul_of_le_one_right h h1),
      add_le_of_nonpos_right (mul_nonpos_of_nonpos_of_nonneg h h0)⟩

theorem rampDen_pos (d : Nat) : (0 : Rat) < (rampDen d : Nat) :=
  Nat.cast_pos.2 (Nat.lt_of_lt_of_le Nat.one_pos (Nat.le_max_right _ _))

theorem rampDen_eq {d : Nat} (hd : 2 ≤ d) : rampDen d = d - 1 :=
  Nat.max_eq_left (Nat.le_sub_one_of_lt hd)

theorem cast_pred {d : Nat} (hd : 2 ≤ d) : ((d - 1 : Nat) : Rat) = (d : Rat) - 1 := by
  rw [Nat.cast_sub (Nat.le_of_succ_le hd), Nat.cast_one]

theorem rampDen_cast {d : Nat} (hd : 2 ≤ d) : ((rampDen d : Nat) : Rat) = (d : Rat) - 1 := by
  rw [rampDen_eq hd, cast_pred hd]

theorem cast_pred_pos {d : Nat} (hd : 2 ≤ d) : (0 : Rat) < (d : Rat) - 1 :=
  sub_pos.2 (by exact_mod_cast hd)

/-- The `np.clip` of `RampWaveform._samples` never bites, whatever the duration: sample `i` is
`a + i·(b − a)/max(d − 1, 1)`, a point of the segment from `a` to `b` because `i ≤ max(d − 1, 1)`. -/
theorem rampSamples?_eq (d : Nat) (a b : Rat) : rampSamples? d a b =
    some ((List.range d).map fun (i : Nat) => a + (i : Rat) * (b - a) / (rampDen d : Nat)) := by
  unfold rampSamples? divQ?
  rw [if_neg (rampDen_pos d).ne', Option.map_some]
  congr 1
  apply List.map_congr_left
  intro i hi
  have hi' : i ≤ rampDen d :=
    Nat.le_trans (Nat.le_sub_one_of_lt (List.mem_range.1 hi)) (Nat.le_max_left _ _)
  obtain ⟨h1, h2⟩ := lerp_between a b (div_nonneg (Nat.cast_nonneg i) (rampDen_pos d).le)
    ((div_le_one (rampDen_pos d)).2 (Nat.cast_le.2 hi'))
  -- the sample as `a + (b - a)·(i/den)`, where the clip is idle; then as in the statement
  rw [add_comm, div_mul_eq_mul_div, mul_div_assoc, clip_id h1 h2, mul_comm, div_mul_eq_mul_div]

theorem rampSamples?_eq_ideal {d : Nat} (a b : Rat) (hd : 2 ≤ d) :
    rampSamples? d a b = some (rampIdeal d a b) := by
  rw [rampSamples?_eq, rampDen_cast hd]; rfl

theorem rampSamples?_one (a b : Rat) : rampSamples? 1 a b = some [a] := by
  rw [rampSamples?_eq]; simp

theorem rampSamples?_length {d : Nat} {a b : Rat} {s : List Rat} (h : rampSamples? d a b = some s) :
    s.length = d := by
  rw [rampSamples?_eq, Option.some.injEq] at h
  rw [← h, List.length_map, List.length_range]

/-- The old formula (before /repo b1aea695) divides by `d - 1 = 0` at `d = 1`. -/
theorem rampSamplesOld?_one (a b : Rat) : rampSamplesOld? 1 a b = none := by
  unfold rampSamplesOld? divQ?; simp

theorem rampIdeal_getElem? {d i : Nat} (a b : Rat) (hi : i < d) :
    (rampIdeal d a b)[i]? = some (a + (i : Rat) * (b - a) / ((d : Rat) - 1)) := by
  rw [rampIdeal, List.getElem?_map, List.getElem?_range hi, Option.map_some]

theorem sum_map_mul_right (l : List Rat) (c : Rat) : (l.map (· * c)).sum = l.sum * c := by
  induction l with
  | nil => simp
  | cons x xs ih => simp [ih]; ring

theorem windowSamples?_length {n : List Rat} {area : Rat} {s : List Rat}
    (h : windowSamples? n area = some s) : s.length = n.length := by
  obtain ⟨q, _, rfl⟩ := Option.map_eq_some_iff.mp h
  exact List.length_map _

theorem windowSamples?_sum {n : List Rat} {area : Rat} {s : List Rat}
    (h : windowSamples? n area = some s) : s.sum / 1000 = area := by
  unfold windowSamples? divQ? at h
  by_cases h0 : n.sum = 0
  · simp [h0] at h
  · simp [h0] at h; subst h
    rw [sum_map_mul_right]; field_simp

theorem windowSamples?_none_iff (n : List Rat) (area : Rat) :
    windowSamples? n area = none ↔ n.sum = 0 := by
  unfold windowSamples? divQ?
  by_cases h0 : n.sum = 0 <;> simp [h0]

theorem windowSamples?_scale (n : List Rat) (area k : Rat) :
    windowSamples? n (area * k) = (windowSamples? n area).map (List.map (· * k)) := by
  unfold windowSamples? divQ?
  by_cases h0 : n.sum = 0
  · simp [h0]
  · simp only [if_neg h0, Option.map_some, Option.some.injEq, List.map_map]
    apply List.map_congr_left
    intro x _
    simp only [Function.comp]
    ring

theorem durationList_eq (ws : List Wf) : durationList ws = (ws.map Wf.duration).sum := by
  induction ws with
  | nil => simp [durationList]
  | cons w ws ih => simp [durationList, ih]

theorem samplesList?_eq (ws : List Wf) :
    samplesList? ws = (ws.mapM Wf.samples?).map List.flatten := by
  induction ws with
  | nil => simp [samplesList?]
  | cons w ws ih =>
    simp only [samplesList?, ih, List.mapM_cons]
    cases w.samples? <;> cases (ws.mapM Wf.samples?) <;> simp

theorem mapM_option_map {α β γ : Type} (f : α → Option β) (g : β → γ) (l : List α) :
    l.mapM (fun a => (f a).map g) = (l.mapM f).map (List.map g) := by
  induction l with
  | nil => rfl
  | cons a l ih =>
    simp only [List.mapM_cons, ih]
    cases f a <;> cases l.mapM f <;> rfl

mutual
theorem samples?_length : ∀ (w : Wf) (s : List Rat), w.samples? = some s → s.length = w.duration
  | .const .., _, rfl => List.length_replicate
  | .ramp .., _, h => rampSamples?_length h
  | .custom _, _, rfl => rfl
  | .window .., _, h => windowSamples?_length h
  | .composite ws, s, h => samplesList?_length ws s h
theorem samplesList?_length : ∀ (ws : List Wf) (s : List Rat), samplesList? ws = some s →
    s.length = durationList ws
  | [], _, rfl => rfl
  | w :: ws, s, h => by
    rw [samplesList?] at h
    split at h
    · rename_i a b h1 h2
      cases h
      rw [List.length_append, samples?_length w a h1, samplesList?_length ws b h2]; rfl
    · cases h
end

theorem rampSamples?_scale (d : Nat) (a b k : Rat) :
    rampSamples? d (a * k) (b * k) = (rampSamples? d a b).map (List.map (· * k)) := by
  rw [rampSamples?_eq, rampSamples?_eq, Option.map_some, List.map_map]
  congr 1
  apply List.map_congr_left
  intro i _
  simp only [Function.comp]
  ring

mutual
theorem scale_samples? (k : Rat) : ∀ (w : Wf),
    (w.scale k).samples? = w.samples?.map (List.map (· * k))
  | .const d v => by rw [Wf.scale, Wf.samples?, Wf.samples?, Option.map_some, List.map_replicate]
  | .ramp d a b => rampSamples?_scale d a b k
  | .custom _ => rfl
  | .window be n area => windowSamples?_scale n area k
  | .composite ws => scaleList_samples? k ws
theorem scaleList_samples? (k : Rat) : ∀ (ws : List Wf),
    samplesList? (scaleList k ws) = (samplesList? ws).map (List.map (· * k))
  | [] => rfl
  | w :: ws => by
    rw [scaleList, samplesList?, samplesList?, scale_samples? k w, scaleList_samples? k ws]
    cases w.samples? <;> cases samplesList? ws <;>
      simp only [Option.map_some, Option.map_none, List.map_append]
end

mutual
theorem scale_duration (k : Rat) : ∀ (w : Wf), (w.scale k).duration = w.duration
  | .const .. => rfl
  | .ramp .. => rfl
  | .custom _ => List.length_map _
  | .window .. => rfl
  | .composite ws => scaleList_duration k ws
theorem scaleList_duration (k : Rat) : ∀ (ws : List Wf),
    durationList (scaleList k ws) = durationList ws
  | [] => rfl
  | w :: ws => congrArg₂ (· + ·) (scale_duration k w) (scaleList_duration k ws)
end

theorem div?_none_iff (w : Wf) (k : Rat) : w.div? k = none ↔ k = 0 := by
  unfold Wf.div?; by_cases h : k = 0 <;> simp [h]

theorem div?_samples (w : Wf) {k : Rat} (hk : k ≠ 0) :
    ∃ w', w.div? k = some w' ∧ w'.duration = w.duration ∧
      w'.samples? = w.samples?.map (List.map (· / k)) := by
  refine ⟨w.scale (1 / k), if_neg hk, scale_duration _ w, ?_⟩
  rw [scale_samples?, funext fun x : Rat => mul_one_div x k]

theorem cumsumFrom_length (acc : Rat) (l : List Rat) : (cumsumFrom acc l).length = l.length := by
  induction l generalizing acc with
  | nil => rfl
  | cons x xs ih => simp [cumsumFrom, ih]

/-- Subtracting the running sums of the scaled differences of `x :: xs` from `c` walks through `xs`,
when it starts at `x` (`c - acc = x`). -/
theorem telescope (c : Rat) : ∀ (xs : List Rat) (x acc : Rat), c - acc = x →
    (cumsumFrom acc (((diffs (x :: xs)).map fun t => -t * 1000).map (· / 1000))).map (c - ·) = xs
  | [], _, _, _ => rfl
  | y :: ys, x, acc, h => by
    have e : c - (acc + -(y - x) * 1000 / 1000) = y := by rw [← h]; ring
    rw [diffs, List.map_cons, List.map_cons, cumsumFrom, List.map_cons, e, telescope c ys y _ e]

/-- The telescoping sum behind `ArbitraryPhase`: whatever the first detuning sample `d0` is, the
offset `p0 + d0·10⁻³` compensates it and the differences rebuild the rest.  The code takes `d0 = 0`
for one sample and the edge pad `d0 = −(p1 − p0)·10³` otherwise. -/
theorem phaseModulation_diffs (p0 d0 : Rat) (rest : List Rat) :
    phaseModulation (p0 + d0 / 1000) (d0 :: (diffs (p0 :: rest)).map fun x => -x * 1000)
      = p0 :: rest := by
  unfold phaseModulation
  rw [List.map_cons, cumsumFrom, List.map_cons, zero_add, add_sub_cancel_right]
  exact congrArg _ (telescope _ rest p0 _ (add_sub_cancel_right _ _))

theorem arb_reconstructs {phi det : List Rat} (h : arbDetuning? phi = some det) :
    phaseModulation (arbPhaseC phi det) det = phi := by
  unfold arbDetuning? at h
  match phi, h with
  | [], h => cases h
  | [x], h =>
    rw [if_pos (List.length_singleton ..), Option.some.injEq] at h; subst h
    exact phaseModulation_diffs x 0 []
  | p0 :: p1 :: rest, h =>
    rw [if_neg (by simp), diffs, List.map_cons, padEdgeLeft, Option.some.injEq] at h; subst h
    exact phaseModulation_diffs p0 _ (p1 :: rest)

theorem cumsum_replicate (c x : Rat) : ∀ (n : Nat) (acc : Rat),
    (cumsumFrom acc (List.replicate n x)).map (c - ·) =
      (List.range n).map fun (i : Nat) => c - (acc + ((i : Rat) + 1) * x)
  | 0, acc => by simp [cumsumFrom]
  | n + 1, acc => by
    rw [List.replicate_succ, cumsumFrom, List.map_cons, cumsum_replicate c x n (acc + x),
      List.range_succ_eq_map, List.map_cons, List.map_map]
    refine congrArg₂ _ (by simp) ?_
    apply List.map_congr_left
    intro i _
    simp only [Function.comp, Nat.cast_succ]
    ring

theorem arbConst_reconstructs (d : Nat) (v : Rat) :
    phaseModulation (arbConst d v).1 (arbConst d v).2 = List.replicate d v := by
  unfold arbConst phaseModulation
  simp only [List.map_replicate]
  rw [cumsum_replicate]
  apply List.ext_getElem <;> simp

theorem arbRamp_reconstructs {d : Nat} {a b c : Rat} {det : List Rat} (hd : 2 ≤ d)
    (h : arbRamp? d a b = some (c, det)) : phaseModulation c det = rampIdeal d a b := by
  unfold arbRamp? divQ? at h
  rw [if_neg (Nat.ne_of_gt hd), if_neg (rampDen_pos d).ne', Option.map_some, Option.some.injEq,
    Prod.mk.injEq, rampDen_cast hd] at h
  obtain ⟨rfl, rfl⟩ := h
  unfold phaseModulation rampIdeal
  rw [List.map_replicate, cumsum_replicate]
  apply List.map_congr_left
  intro i _
  ring

theorem mkPulse_eq (amp det : List Rat) (ph post : Rat) : mkPulse amp det ph post =
    if det.length = amp.length ∧ ∀ x ∈ amp, 0 ≤ x then
      some { amp := amp, det := det, phase := fmtPhase ph, post := fmtPhase post }
    else none := by
  have hany : amp.any (· < 0) = true ↔ ¬ ∀ x ∈ amp, 0 ≤ x := by
    simp only [List.any_eq_true, decide_eq_true_eq, not_forall, not_le, exists_prop]
  unfold mkPulse
  by_cases h1 : det.length = amp.length
  · by_cases h2 : ∀ x ∈ amp, 0 ≤ x
    · rw [if_neg (not_not.2 h1), if_neg (fun h => hany.1 h h2), if_pos ⟨h1, h2⟩]
    · rw [if_neg (not_not.2 h1), if_pos (hany.2 h2), if_neg (fun h => h2 h.2)]
  · rw [if_pos h1, if_neg (fun h => h1 h.1)]

/-! ## `BlackmanWaveform.from_max_val` -/

theorem searchUp_spec {p : Nat → Bool} : ∀ (fuel n m : Nat), searchUp p fuel n = some m →
    n ≤ m ∧ p m = true ∧ ∀ j, n ≤ j → j < m → p j = false
  | 0, n, m, h => by simp [searchUp] at h
  | fuel + 1, n, m, h => by
    unfold searchUp at h
    by_cases hp : p n = true
    · rw [if_pos hp] at h
      cases h
      exact ⟨Nat.le_refl _, hp, fun j h1 h2 => absurd h2 (Nat.not_lt.2 h1)⟩
    · rw [if_neg hp] at h
      obtain ⟨h1, h2, h3⟩ := searchUp_spec fuel (n + 1) m h
      refine ⟨Nat.le_of_succ_le h1, h2, fun j hj1 hj2 => ?_⟩
      rcases Nat.eq_or_lt_of_le hj1 with rfl | hlt
      · exact Bool.eq_false_iff.2 hp
      · exact h3 j hlt hj2

theorem searchUp_eq {p : Nat → Bool} {m : Nat} (hm : p m = true) : ∀ (fuel n : Nat), n ≤ m →
    m - n < fuel → (∀ j, n ≤ j → j < m → p j = false) → searchUp p fuel n = some m
  | 0, _, _, hf, _ => absurd hf (Nat.not_lt_zero _)
  | fuel + 1, n, hnm, hf, h => by
    unfold searchUp
    rcases Nat.eq_or_lt_of_le hnm with rfl | hlt
    · rw [if_pos hm]
    · rw [if_neg (Bool.eq_false_iff.1 (h n (Nat.le_refl n) hlt))]
      exact searchUp_eq hm fuel (n + 1) hlt
        (Nat.lt_of_lt_of_le (Nat.sub_succ_lt_self m n hlt) (Nat.le_of_lt_succ hf))
        fun j hj => h j (Nat.le_of_succ_le hj)

/-- `area / (0.42·max_val) · 1e3`, whose ceiling is the first guess. -/
def bmA (area maxVal : Rat) : Rat := area / ((21 : Rat) / 50 * maxVal) * 1000

theorem bmStop_of_some {S : Nat → Rat} {area : Rat} (maxVal : Rat) {N : Nat} {sc : Rat}
    (h : bmScaling? S area N = some sc) : bmStop S area maxVal N = decide (sc ≤ maxVal) := by
  unfold bmStop; rw [h]

theorem bmGuess_le_iff (area maxVal : Rat) (n : Nat) :
    bmGuess area maxVal ≤ n ↔ bmA area maxVal ≤ (n : Rat) :=
  Int.toNat_le.trans (Rat.ceil_le_iff.trans (by rw [Int.cast_natCast]; rfl))

theorem bmIdealSum_pos {N : Nat} (hN : 2 ≤ N) : 0 < bmIdealSum N :=
  Rat.mul_pos (by norm_num) (cast_pred_pos hN)

theorem bmScaling?_ideal {S : Nat → Rat} (area : Rat) {N : Nat} (hN : 2 ≤ N)
    (hSN : S N = bmIdealSum N) :
    bmScaling? S area N = some (area / ((21 : Rat) / 50 * ((N : Rat) - 1)) * 1000) := by
  unfold bmScaling? divQ?; rw [hSN, if_neg (bmIdealSum_pos hN).ne']; rfl

theorem bmScaling_ideal_pos {area : Rat} (ha : 0 < area) {N : Nat} (hN : 2 ≤ N) :
    0 < area / ((21 : Rat) / 50 * ((N : Rat) - 1)) * 1000 :=
  Rat.mul_pos (div_pos ha (bmIdealSum_pos hN)) (by decide)

/-- The idea of the Blackman search: with the ideal window sum `0.42 (N − 1)` the scaling of `N`
samples stays below `maxVal` iff `bmA ≤ N − 1`, i.e. iff the first guess `⌈bmA⌉` is below `N`. -/
theorem bmScaling_ideal_le_iff {area maxVal : Rat} (hm : 0 < maxVal) {N : Nat} (hN : 2 ≤ N) :
    area / ((21 : Rat) / 50 * ((N : Rat) - 1)) * 1000 ≤ maxVal ↔ bmGuess area maxVal < N := by
  have hD : (0 : Rat) < 21 / 50 * ((N : Rat) - 1) := bmIdealSum_pos hN
  have hg : bmGuess area maxVal < N ↔ bmA area maxVal ≤ (N : Rat) - 1 := by
    rw [← cast_pred hN, ← bmGuess_le_iff]; exact Nat.lt_iff_le_pred (Nat.zero_lt_of_lt hN)
  rw [hg]
  unfold bmA
  rw [div_mul_eq_mul_div area, div_mul_eq_mul_div area, div_le_iff₀ hD,
    div_le_iff₀ (Rat.mul_pos (by norm_num) hm), mul_left_comm maxVal, mul_left_comm (_ - _),
    mul_comm maxVal]

theorem bmStop_ideal {S : Nat → Rat} {area maxVal : Rat}
    (hm : 0 < maxVal) {N : Nat} (hN : 2 ≤ N) (hSN : S N = bmIdealSum N) :
    bmStop S area maxVal N = true ↔ bmGuess area maxVal < N := by
  rw [bmStop_of_some maxVal (bmScaling?_ideal area hN hSN), decide_eq_true_eq]
  exact bmScaling_ideal_le_iff hm hN

theorem bmSearch_ideal {S : Nat → Rat} {L : Nat} (hL : 2 ≤ L)
    (hS : ∀ N, L ≤ N → S N = bmIdealSum N)
    {area maxVal : Rat} (hm : 0 < maxVal) (hg2 : L ≤ bmGuess area maxVal)
    {fuel : Nat} (hf : 2 ≤ fuel) :
    bmSearch S area maxVal fuel = some (bmGuess area maxVal + 1) := by
  have stop : ∀ N, bmGuess area maxVal ≤ N →
      (bmStop S area maxVal N = true ↔ bmGuess area maxVal < N) := fun N hN =>
    bmStop_ideal hm (Nat.le_trans hL (Nat.le_trans hg2 hN)) (hS _ (Nat.le_trans hg2 hN))
  exact searchUp_eq ((stop _ (Nat.le_succ _)).2 (Nat.lt_succ_self _))
    fuel _ (Nat.le_succ _) (by rwa [Nat.succ_eq_add_one, Nat.add_sub_cancel_left]) fun j hj1 hj2 =>
      Bool.eq_false_iff.2 (mt (stop j hj1).1 (Nat.not_lt.2 (Nat.le_of_lt_succ hj2)))

/-- The odd/even adjustment never leaves the bound: it goes back only to a duration whose peak
was tested against `max_val`, and otherwise keeps `N`, whose peak is at most its scaling. -/
theorem bmAdjust_le {S peak : Nat → Rat} {area maxVal : Rat} (g : Nat) {N : Nat} {sc : Rat}
    (hpk : peak N ≤ 1) (hN : bmScaling? S area N = some sc) (h0 : 0 ≤ sc) (hle : sc ≤ maxVal) :
    ∃ sc', bmScaling? S area (bmAdjust S peak area maxVal g N) = some sc' ∧
      peak (bmAdjust S peak area maxVal g N) * sc' ≤ maxVal := by
  have normal : ∃ sc', bmScaling? S area N = some sc' ∧ peak N * sc' ≤ maxVal :=
    ⟨sc, hN, le_trans (mul_le_of_le_one_left h0 hpk) hle⟩
  unfold bmAdjust
  rw [hN]
  cases hP : bmScaling? S area (N - 1) with
  | none => exact normal
  | some sP =>
    dsimp only
    split
    · rename_i hc
      exact ⟨sP, hP, hc.2.2.2⟩
    · exact normal

end Wave
end Pulser
