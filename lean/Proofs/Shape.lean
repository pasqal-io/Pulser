/-
  Proofs.Shape — what each scheduler primitive does to a channel, stated once: which
  instructions it appends and what else it changes.  The invariants (timeline, conflict, EOM,
  targets) are then proved about appended instructions, not about the primitives' code.
-/
import PulserModel.Schedule
namespace Pulser

/-- `c` with one more instruction. -/
abbrev ChanState.snoc (c : ChanState) (x : Slot) : ChanState := { c with slots := c.slots ++ [x] }

theorem last_ok {c : ChanState} {s : Slot} (h : c.last = .ok s) :
    ∃ rest, c.slots.reverse = s :: rest := by
  unfold ChanState.last at h
  split at h
  · rename_i x hl
    injection h with h; subst h
    obtain ⟨ys, hys⟩ := List.getLast?_eq_some_iff.mp hl
    exact ⟨ys.reverse, by rw [hys, List.reverse_append]; rfl⟩
  · cases h

theorem last_snoc (c : ChanState) (x : Slot) : (c.snoc x).last = .ok x := by
  simp [ChanState.last]

/-- In EOM mode: the last block is open. -/
theorem inEomMode_iff {c : ChanState} :
    c.inEomMode = true ↔ ∃ b, c.eom.getLast? = some b ∧ b.tf = none := by
  unfold ChanState.inEomMode
  cases c.eom.getLast? with
  | none => exact ⟨fun h => Bool.noConfusion h, fun ⟨_, hb, _⟩ => by cases hb⟩
  | some b =>
    refine ⟨fun h => ⟨b, rfl, Option.isNone_iff_eq_none.mp h⟩, fun ⟨b', hb, h⟩ => ?_⟩
    cases hb
    exact Option.isNone_iff_eq_none.mpr h

theorem inEomMode_false {c : ChanState} {b : EomBlock} (h : c.inEomMode = false)
    (hb : c.eom.getLast? = some b) : b.tf ≠ none :=
  fun ho => Bool.false_ne_true (h.symm.trans (inEomMode_iff.mpr ⟨b, hb, ho⟩))

/-- Stated as a lemma because the unifier takes long to see it. -/
theorem getDuration_false_eom (c : ChanState) (e : List EomBlock) :
    ({ c with eom := e } : ChanState).getDuration false = c.getDuration false := by
  unfold ChanState.getDuration
  cases c.slots.reverse <;> rfl

theorem getDuration_false_last {c : ChanState} {last : Slot} (hl : c.last = .ok last) :
    c.getDuration false = last.tf := by
  obtain ⟨rest, hr⟩ := last_ok hl
  unfold ChanState.getDuration; rw [hr]; rfl

theorem getDuration_false_snoc (c : ChanState) (x : Slot) : (c.snoc x).getDuration false = x.tf :=
  getDuration_false_last (last_snoc c x)

theorem checkDuration_bound {ms : Option Nat} {t : Int} {u : Unit} (h : checkDuration ms t = .ok u) :
    ∀ m, ms = some m → t ≤ (m : Int) := by
  intro m hm
  subst hm
  unfold checkDuration at h
  by_cases h1 : t > (m : Int)
  · simp [h1] at h
  · omega

theorem mkDetunedDelay_spec {c : ChanState} {d : Nat} {x y : Rat} {p : PulseRec}
    (h : mkDetunedDelay c d x y = .ok p) :
    p.dur = d ∧ p.ref = 0 ∧ p.const = true ∧ p.amp = 0 ∧ p.det = x ∧ p.dd = true ∧
      p.phase = fmtPhase y := by
  unfold mkDetunedDelay at h
  split at h
  · cases h
  · injection h with h; subst h; exact ⟨rfl, rfl, rfl, rfl, rfl, rfl, rfl⟩

/-- **`add_delay`**, by cases on its result.  It is refused on an empty channel ("no target"), for its
duration, for the length of the sequence, or — in the model only — for a missing oracle answer.
Otherwise it appends one instruction from the channel's end, lasting the validated duration and
acting on the same targets: a delay, or — only inside an open EOM block with a non-zero
off-detuning — the idle pulse at that detuning.  Nothing else changes. -/
theorem addDelay_cases (ms : Option Nat) (c : ChanState) (d : Nat) :
    match addDelay ms c d with
    | .error e => e = .noTarget ∨ validateDuration c.cfg d = .error e ∨ e = .overMaxSeq ∨
        ∃ x r, e = .oracleMiss c.name x r
    | .ok c' =>
      ∃ (last : Slot) (d' : Nat) (k : SlotKind), c.last = .ok last ∧ validateDuration c.cfg d = .ok d' ∧
        (∀ m, ms = some m → last.tf + d' ≤ (m : Int)) ∧
        c' = c.snoc ⟨k, last.tf, last.tf + d', last.targets⟩ ∧
        ((k = .delay ∧ ∀ b, c.eom.getLast? = some b → b.tf = none → b.detOff = 0) ∨
         ∃ b p, c.eom.getLast? = some b ∧ b.tf = none ∧ b.detOff ≠ 0 ∧
          mkDetunedDelay c d' b.detOff c.lastPulsePhase = .ok p ∧ k = .pulse p) := by
  unfold addDelay
  cases hl : c.last with
  | error e =>
    refine .inl ?_
    unfold ChanState.last at hl
    split at hl
    · cases hl
    · injection hl with hl; exact hl.symm
  | ok last =>
    cases hv : validateDuration c.cfg d with
    | error e => exact .inr (.inl rfl)
    | ok d' =>
      simp only [bind, Except.bind]
      cases hc : checkDuration ms (last.tf + (d' : Int)) with
      | error e =>
        refine .inr (.inr (.inl ?_))
        unfold checkDuration at hc
        split at hc
        · split at hc
          · injection hc with hc; exact hc.symm
          · cases hc
        · cases hc
      | ok u =>
        have hbd := checkDuration_bound hc
        cases hb : c.eom.getLast? with
        | none => exact ⟨last, d', .delay, rfl, rfl, hbd, rfl, .inl ⟨rfl, fun _ hb' => by cases hb'⟩⟩
        | some b =>
          by_cases ho : (b.tf.isNone && decide (b.detOff ≠ 0)) = true
          · simp only [if_pos ho]
            have ho' := Bool.and_eq_true _ _ ▸ ho
            cases hm : mkDetunedDelay c d' b.detOff c.lastPulsePhase with
            | error e =>
              refine .inr (.inr (.inr ?_))
              unfold mkDetunedDelay at hm
              split at hm
              · injection hm with hm; exact ⟨_, _, hm.symm⟩
              · cases hm
            | ok p =>
              exact ⟨last, d', .pulse p, rfl, rfl, hbd, rfl, .inr ⟨b, p, rfl,
                Option.isNone_iff_eq_none.mp ho'.1, of_decide_eq_true ho'.2, hm, rfl⟩⟩
          · simp only [if_neg ho]
            refine ⟨last, d', .delay, rfl, rfl, hbd, rfl, .inl ⟨rfl, fun b' hb' hopen => ?_⟩⟩
            cases hb'
            simpa [hopen] using ho

theorem addDelay_shape {ms : Option Nat} {c c' : ChanState} {d : Nat} (h : addDelay ms c d = .ok c') :
    ∃ (last : Slot) (d' : Nat) (k : SlotKind), c.last = .ok last ∧ validateDuration c.cfg d = .ok d' ∧
      (∀ m, ms = some m → last.tf + d' ≤ (m : Int)) ∧
      c' = c.snoc ⟨k, last.tf, last.tf + d', last.targets⟩ ∧
      ((k = .delay ∧ ∀ b, c.eom.getLast? = some b → b.tf = none → b.detOff = 0) ∨
       ∃ b p, c.eom.getLast? = some b ∧ b.tf = none ∧ b.detOff ≠ 0 ∧
        mkDetunedDelay c d' b.detOff c.lastPulsePhase = .ok p ∧ k = .pulse p) := by
  have := addDelay_cases ms c d
  rw [h] at this; exact this

theorem addDelay_err_cases {ms : Option Nat} {c : ChanState} {d : Nat} {e : Err}
    (h : addDelay ms c d = .error e) :
    e = .noTarget ∨ validateDuration c.cfg d = .error e ∨ e = .overMaxSeq ∨
      ∃ x r, e = .oracleMiss c.name x r := by
  have := addDelay_cases ms c d
  rw [h] at this; exact this

theorem waitForFall_cases {ms : Option Nat} {c c' : ChanState} (h : waitForFall ms c = .ok c') :
    (c' = c ∧ c.getDuration true ≤ c.getDuration false) ∨
    ∃ d, 0 < c.getDuration true - c.getDuration false ∧
      c.adjust (c.getDuration true - c.getDuration false).toNat = .ok d ∧ addDelay ms c d = .ok c' := by
  unfold waitForFall at h
  simp only at h
  split at h
  · rename_i hpos
    cases ha : c.adjust (c.getDuration true - c.getDuration false).toNat with
    | error e => simp [ha, bind, Except.bind] at h
    | ok d => simp only [ha, bind, Except.bind] at h; exact .inr ⟨d, hpos, rfl, h⟩
  · rename_i hpos
    injection h with h; exact .inl ⟨h.symm, Int.le_of_sub_nonpos (Int.not_lt.mp hpos)⟩

/-- The tail of **`add_target`** appends one target instruction from the channel's end, lasting
the (adjusted, unless zero) retarget time. -/
theorem addTargetTail_shape {ms : Option Nat} {c c' : ChanState} {qs : List Nat}
    (h : addTargetTail ms c qs = .ok c') :
    ∃ (last : Slot) (delta : Nat), c.last = .ok last ∧
      (if retargetDelta c last.tf ≠ 0 then c.adjust (retargetDelta c last.tf).toNat else .ok 0)
        = .ok delta ∧
      (∀ m, ms = some m → last.tf + delta ≤ (m : Int)) ∧
      c' = c.snoc ⟨.target, last.tf, last.tf + delta, qs⟩ := by
  unfold addTargetTail at h
  split at h
  · cases h
  · rename_i last hl
    simp only at h
    split at h
    · cases h
    · rename_i delta hd
      split at h
      · cases h
      · rename_i u hc
        injection h with h
        exact ⟨last, delta, hl, hd, checkDuration_bound hc, h.symm⟩

/-- **`add_target`** leaves the channel as it is (same targets, or a refused step), puts the
initial target instruction on an empty channel, or is `wait_for_fall` followed (unless refused) by
the tail. -/
theorem addTarget_cases (ms : Option Nat) (c : ChanState) (qs : List Nat) :
    (addTarget ms c qs).c = c ∨
    (c.slots = [] ∧ (∀ m, ms = some m → (0 : Int) ≤ m) ∧
      (addTarget ms c qs).c = c.snoc ⟨.target, -1, 0, qs⟩) ∨
    ∃ c1, waitForFall ms c = .ok c1 ∧
      ((addTarget ms c qs).c = c1 ∨ addTargetTail ms c1 qs = .ok (addTarget ms c qs).c) := by
  by_cases hemp : c.slots.isEmpty = true
  · rw [show addTarget ms c qs = _ from if_pos hemp]
    cases hc : checkDuration ms 0 with
    | error e => exact .inl rfl
    | ok u => exact .inr (.inl ⟨List.isEmpty_iff.mp hemp, checkDuration_bound hc, rfl⟩)
  · rw [show addTarget ms c qs = _ from if_neg hemp]
    by_cases hsame : sameTargets c qs = true
    · rw [if_pos hsame]; exact .inl rfl
    · rw [if_neg hsame]
      cases hw : waitForFall ms c with
      | error e => exact .inl rfl
      | ok c1 =>
        refine .inr (.inr ⟨c1, rfl, ?_⟩)
        cases ht : addTargetTail ms c1 qs with
        | error e => exact .inl (by simp [CRes.lift, CRes.bind, ht])
        | ok c2 => exact .inr (by simp [CRes.lift, CRes.bind, ht])

/-- **`make_next_pulse_slot`** returns the pulse, unchanged but for the protocol tag and (under a
phase drift) the phase, placed `delay` after the channel's end on the same targets; `delay` is
the required wait `max (current_max_t − t0) phase_jump_buffer`, adjusted unless not positive. -/
theorem makeNextPulseSlot_shape {ms : Option Nat} {c : ChanState} {others : List ChanState}
    {p : PulseRec} {barriers : List Int} {proto : Protocol} {drift : Option Drift} {blk : Bool}
    {slot last : Slot} (hl : c.last = .ok last)
    (h : makeNextPulseSlot ms c others p barriers proto drift blk = .ok slot) :
    ∃ (delay : Nat) (ph : Rat),
      (let need := max (curMaxOf others last barriers proto - last.tf)
          (phaseJumpBuffer c last.tf
            (fmtPhase (correctedPhase p drift (curMaxOf others last barriers proto))) proto)
       (if need > 0 then c.adjust need.toNat else .ok 0) = .ok delay) ∧
      (blk = true → ∀ m, ms = some m → last.tf + delay + p.dur ≤ (m : Int)) ∧
      (drift = none → ph = p.phase) ∧
      slot = ⟨.pulse { p with phase := ph, proto := proto }, last.tf + delay,
        last.tf + delay + p.dur, last.targets⟩ := by
  unfold makeNextPulseSlot at h
  simp only [hl] at h
  split at h
  · cases h
  · rename_i delay hdl
    split at h
    · cases h
    · rename_i u hcd
      injection h with h; subst h
      have hb : blk = true → ∀ m, ms = some m → last.tf + delay + p.dur ≤ (m : Int) := fun hb => by
        rw [if_pos hb] at hcd
        exact checkDuration_bound hcd
      cases drift with
      | none => exact ⟨delay, p.phase, hdl, hb, fun _ => rfl, rfl⟩
      | some d => exact ⟨delay, _, hdl, hb, nofun, rfl⟩

/-- **`add_pulse`** appends the slot of `make_next_pulse_slot`, after an `add_delay` over the gap
if the slot starts later than the channel ends. -/
theorem addPulse_cases {ms : Option Nat} {c c' : ChanState} {others : List ChanState}
    {p : PulseRec} {barriers : List Int} {proto : Protocol} {drift : Option Drift}
    (h : addPulse ms c others p barriers proto drift = .ok c') :
    ∃ (last slot : Slot) (c1 : ChanState), c.last = .ok last ∧
      makeNextPulseSlot ms c others p barriers proto drift true = .ok slot ∧
      ((c1 = c ∧ slot.ti ≤ last.tf) ∨
       (last.tf < slot.ti ∧ addDelay ms c (slot.ti - last.tf).toNat = .ok c1)) ∧
      c' = c1.snoc slot := by
  unfold addPulse at h
  cases hl : c.last with
  | error e => simp [hl, bind, Except.bind] at h
  | ok last =>
    cases hm : makeNextPulseSlot ms c others p barriers proto drift true with
    | error e => simp [hl, hm, bind, Except.bind] at h
    | ok slot =>
      simp only [hl, hm, bind, Except.bind] at h
      by_cases hpos : slot.ti - last.tf > 0
      · simp only [hpos, if_true] at h
        cases had : addDelay ms c (slot.ti - last.tf).toNat with
        | error e => simp [had] at h
        | ok c1 =>
          simp only [had] at h
          injection h with h
          exact ⟨last, slot, c1, rfl, rfl, .inr ⟨Int.lt_of_sub_pos hpos, had⟩, h.symm⟩
      · simp only [hpos, if_false, pure, Except.pure] at h
        injection h with h
        exact ⟨last, slot, c, rfl, rfl, .inl ⟨rfl, Int.le_of_sub_nonpos (Int.not_lt.mp hpos)⟩, h.symm⟩

theorem addPulse_last {ms : Option Nat} {c c' : ChanState} {others : List ChanState}
    {p : PulseRec} {barriers : List Int} {proto : Protocol} {drift : Option Drift}
    (h : addPulse ms c others p barriers proto drift = .ok c') :
    ∃ slot, makeNextPulseSlot ms c others p barriers proto drift true = .ok slot ∧
      c'.last = .ok slot := by
  obtain ⟨_, slot, c1, _, hm, _, rfl⟩ := addPulse_cases h
  exact ⟨slot, hm, last_snoc c1 slot⟩

theorem CRes.lift_rel {R : ChanState → ChanState → Prop} {c : ChanState} {e : Except Err ChanState}
    (hr : R c c) (h : ∀ c', e = .ok c' → R c c') : R c (CRes.lift c e).c := by
  cases e with
  | error _ => exact hr
  | ok c' => exact h c' rfl

theorem CRes.bind_c (r : CRes) (f : ChanState → CRes) :
    (r.bind f).c = r.c ∨ (r.bind f).c = (f r.c).c := by
  unfold CRes.bind; cases r.err <;> simp

/-- One waiting step inside a compound operation: nothing (skipped or refused), an `add_delay`,
or the idle pulse `enable_eom` plays as its buffer when the off-detuning is not zero. -/
def Wait (ms : Option Nat) (c c' : ChanState) : Prop :=
  c' = c ∨ (∃ d, addDelay ms c d = .ok c') ∨
  ∃ d0 d x p, c.adjust d0 = .ok d ∧ mkDetunedDelay c d x c.lastPulsePhase = .ok p ∧
    addPulse ms c [] p [0] .noDelay none = .ok c'

theorem waitForFall_wait {ms : Option Nat} {c c' : ChanState} (h : waitForFall ms c = .ok c') :
    Wait ms c c' := by
  rcases waitForFall_cases h with ⟨h, _⟩ | ⟨d, _, _, h⟩
  · exact .inl h
  · exact .inr (.inl ⟨d, h⟩)

theorem Wait.lift {ms : Option Nat} {c : ChanState} {e : Except Err ChanState}
    (h : ∀ c', e = .ok c' → Wait ms c c') : Wait ms c (CRes.lift c e).c :=
  CRes.lift_rel (R := Wait ms) (.inl rfl) h

/-- **`enable_eom`**: two waiting steps (fall wait, buffer), then — unless a step was refused —
a new open block starts at the channel's end. -/
theorem enableEom_shape (ms : Option Nat) (c : ChanState) (amp detOn detOff : Rat) (sb sw : Bool) :
    ∃ c1 c2, Wait ms c c1 ∧ Wait ms c1 c2 ∧
      (((enableEom ms c amp detOn detOff sb sw).c = c2 ∧
          (enableEom ms c amp detOn detOff sb sw).err ≠ none) ∨
       ∃ last, c2.last = .ok last ∧ (enableEom ms c amp detOn detOff sb sw).c
          = { c2 with eom := c2.eom ++ [⟨last.tf, none, amp, detOn, detOff⟩] }) := by
  unfold enableEom
  simp only
  generalize hr : (if (!sb && decide (c.getDuration false ≠ 0)) = true then _ else _ : CRes) = r
  have hw : ∃ c1, Wait ms c c1 ∧ Wait ms c1 r.c := by
    subst hr
    by_cases hbuf : (!sb && decide (c.getDuration false ≠ 0)) = true
    · rw [if_pos hbuf]
      generalize hr1 :
        (if (!sw) = true then CRes.lift c (waitForFall ms c) else (⟨c, none⟩ : CRes)) = r1
      have h1 : Wait ms c r1.c := by
        subst hr1; split
        · exact Wait.lift fun _ => waitForFall_wait
        · exact .inl rfl
      refine ⟨r1.c, h1, ?_⟩
      rcases CRes.bind_c r1 _ with h | h <;> rw [h]
      · exact .inl rfl
      · apply Wait.lift
        intro c2 h
        simp only [bind, Except.bind] at h
        split at h
        · cases h
        · rename_i buf ha
          split at h
          · split at h
            · cases h
            · rename_i p hm
              exact .inr (.inr ⟨_, buf, _, p, ha, hm, h⟩)
          · exact .inr (.inl ⟨buf, h⟩)
    · rw [if_neg hbuf]; exact ⟨c, .inl rfl, .inl rfl⟩
  obtain ⟨c1, w1, w2⟩ := hw
  refine ⟨c1, r.c, w1, w2, ?_⟩
  unfold CRes.bind
  cases hre : r.err with
  | some e => exact .inl ⟨rfl, by simp [hre]⟩
  | none =>
    cases hl : r.c.last with
    | error e => exact .inl (by simp [CRes.lift, hl, bind, Except.bind])
    | ok last => exact .inr ⟨last, rfl, by simp [CRes.lift, hl, bind, Except.bind]⟩

/-- **`disable_eom`**: refused on an empty channel; otherwise the open block is closed at the
channel's end and one waiting step (buffer or fall wait) follows. -/
theorem disableEom_shape (ms : Option Nat) (c : ChanState) (sb : Bool) :
    ((disableEom ms c sb).c = c ∧ (disableEom ms c sb).err ≠ none) ∨
    ∃ last, c.last = .ok last ∧
      Wait ms { c with eom := closeLastBlock c.eom last.tf } (disableEom ms c sb).c := by
  unfold disableEom
  cases hl : c.last with
  | error e => exact .inl (by simp [CRes.lift, CRes.bind, bind, Except.bind])
  | ok last =>
    refine .inr ⟨last, rfl, ?_⟩
    simp only [CRes.lift, bind, Except.bind, CRes.bind]
    by_cases hsb : sb = true
    · rw [if_pos hsb]; exact .inl rfl
    rw [if_neg hsb]
    cases he : c.cfg.eom with
    | none => exact Wait.lift fun _ => waitForFall_wait
    | some e =>
      show Wait ms _ (if e.customBuffer = true then _ else _ : CRes).c
      by_cases hcb : e.customBuffer = true
      · rw [if_pos hcb]
        apply Wait.lift
        intro c' h
        split at h
        · cases h
        · rename_i buf _
          exact .inr (.inl ⟨buf, h⟩)
      · rw [if_neg hcb]; exact Wait.lift fun _ => waitForFall_wait

/-- Only the instructions of the channel differ. -/
def OnlySlots (c c' : ChanState) : Prop := c' = { c with slots := c'.slots }

theorem OnlySlots.trans {a b c : ChanState} (h1 : OnlySlots a b) (h2 : OnlySlots b c) : OnlySlots a c := by
  unfold OnlySlots at *
  rw [h2, h1]

theorem addDelay_onlySlots {ms : Option Nat} {c c' : ChanState} {d : Nat} (h : addDelay ms c d = .ok c') :
    OnlySlots c c' := by
  obtain ⟨_, _, _, _, _, _, rfl, _⟩ := addDelay_shape h
  rfl

theorem addPulse_onlySlots {ms : Option Nat} {c c' : ChanState} {o : List ChanState} {p : PulseRec}
    {b : List Int} {proto : Protocol} {drift : Option Drift}
    (h : addPulse ms c o p b proto drift = .ok c') : OnlySlots c c' := by
  obtain ⟨_, _, c1, _, _, hc1, rfl⟩ := addPulse_cases h
  rcases hc1 with ⟨rfl, _⟩ | ⟨_, h1⟩
  · exact rfl
  · exact (addDelay_onlySlots h1).trans rfl

theorem Wait.frame {ms : Option Nat} {c c' : ChanState} (h : Wait ms c c') : OnlySlots c c' := by
  rcases h with rfl | ⟨d, h⟩ | ⟨_, _, _, _, _, _, h⟩
  · exact rfl
  · exact addDelay_onlySlots h
  · exact addPulse_onlySlots h

theorem addTarget_onlySlots (ms : Option Nat) (c : ChanState) (qs : List Nat) :
    OnlySlots c (addTarget ms c qs).c := by
  rcases addTarget_cases ms c qs with h | ⟨_, _, h⟩ | ⟨c1, hw, h | h⟩
  · rw [h]; exact rfl
  · rw [h]; exact rfl
  · rw [h]; exact (waitForFall_wait hw).frame
  · obtain ⟨_, _, _, _, _, h⟩ := addTargetTail_shape h
    rw [h]; exact (waitForFall_wait hw).frame.trans rfl

theorem closeLastBlock_eq (l : List EomBlock) (b : EomBlock) (tf : Int) (h : l.getLast? = some b) :
    closeLastBlock l tf = l.dropLast ++ [{ b with tf := some tf }] := by
  unfold closeLastBlock
  obtain ⟨ys, hys⟩ := List.getLast?_eq_some_iff.mp h
  have hl : l = l.dropLast ++ [b] := by rw [hys]; simp
  generalize l.dropLast = d at hl
  subst hl
  simp

theorem closeLastBlock_mode (l : List EomBlock) (tf : Int) :
    (match (closeLastBlock l tf).getLast? with | some b => b.tf.isNone | none => false) = false := by
  cases hg : l.getLast? with
  | none =>
    have : l = [] := by simpa using hg
    subst this; rfl
  | some b => rw [closeLastBlock_eq _ _ _ hg]; simp

theorem disableEom_name (ms : Option Nat) (c : ChanState) (sb : Bool) :
    (disableEom ms c sb).c.name = c.name := by
  rcases disableEom_shape ms c sb with ⟨h, _⟩ | ⟨_, _, w⟩
  · rw [h]
  · rw [w.frame]

theorem disableEom_mode {ms : Option Nat} {c : ChanState} {sb : Bool} (hin : c.inEomMode = true)
    (hok : (disableEom ms c sb).err = none) :
    (disableEom ms c sb).c.inEomMode = false ∧ (disableEom ms c sb).c.eom ≠ [] := by
  rcases disableEom_shape ms c sb with ⟨_, he⟩ | ⟨last, _, w⟩
  · exact absurd hok he
  · rw [w.frame]
    refine ⟨closeLastBlock_mode c.eom last.tf, ?_⟩
    show closeLastBlock c.eom last.tf ≠ []
    obtain ⟨b, hg, _⟩ := inEomMode_iff.mp hin
    rw [closeLastBlock_eq _ _ _ hg]; simp

end Pulser
