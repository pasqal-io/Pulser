/-
  Proofs.CallSpec — what a successful call has done, at the level of the API: after `add` the slot
  computed by `make_next_pulse_slot` on the pre-state is the last instruction of the channel
  (`addCore_ok_spec`); one round of the loop of `align` and the `delay` it issues (`alignLoop_cons`,
  `delayCore_spec`; C03).
-/
import Proofs.SeqInv
import Proofs.Protocol
namespace Pulser

theorem phaseShift_chans (s : SeqState) (phi : Rat) (qs : List Nat) (b : Basis) :
    (s.phaseShift phi qs b).st.chans = s.chans := by
  rcases phaseShift_cases s phi qs b with h | h | ⟨_, h⟩
  · rw [h]; rfl
  · rw [h]; rfl
  · rw [h, done, mapRefs_eq]

/-- A successful `_add`: the channel's new last instruction is the slot computed on the pre-state. -/
theorem addCore_ok_spec {s : SeqState} {p : PulseIn} {n : ChName} {proto : Protocol}
    {drift : Option Drift} (h : (addCore s p n (some proto) drift).err = none) :
    ∃ (c c' : ChanState) (last slot : Slot) (pr : PulseRec) (ref : Option Rat),
      s.getChan n = some c ∧ c.last = .ok last ∧
      ref = (if c.cfg.isDmm = true then none else (s.lastPhases c.cfg.basis last.targets).head?) ∧
      validateAndAdjust c p ref = .ok pr ∧
      makeNextPulseSlot s.dev.maxSeqDur c (s.others n) pr (s.lastTimes c.cfg.basis last.targets)
        proto drift true = .ok slot ∧
      (addCore s p n (some proto) drift).st.getChan n = some c' ∧ c'.last = .ok slot := by
  rcases addCore_cases p n (some proto) drift with ⟨e, h'⟩ | ⟨_, c, c', last, slot, pr, hp, hc, hl, hpr, hadd, hl', h'⟩
  · rw [h'] at h; cases h
  cases hp
  obtain ⟨slot', hm, hl''⟩ := addPulse_last hadd
  cases hl'.symm.trans hl''
  have hcm := getChan_mem hc
  have hget : (s.setChan c').getChan n = some c' :=
    getChan_setChan_same hc (by rw [addPulse_onlySlots hadd]; exact hcm.2)
  refine ⟨c, c', last, slot, pr, _, hc, hl, rfl, hpr, hm, ?_, hl'⟩
  -- the reference bookkeeping after the append leaves the channels alone
  have hm2 := (mapRefs_chans (s.setChan c') c.cfg.basis last.targets (·.updateLastUsed slot.tf)).1
  rw [h']
  by_cases ht : totalShift pr.post drift slot.ti ≠ 0
  · rw [if_pos ht, getChan_of_chans ((phaseShift_chans _ _ _ _).trans hm2)]; exact hget
  · rw [if_neg ht, done, getChan_of_chans hm2]; exact hget

theorem addDelay_end {ms : Option Nat} {c c' : ChanState} {d : Nat} (hc : 0 < c.cfg.clock)
    (h : addDelay ms c d = .ok c') :
    ∃ d' : Nat, c'.getDuration false = c.getDuration false + d' ∧ d ≤ d' ∧ d' < d + c.cfg.clock ∧
      c.cfg.clock ∣ d' := by
  obtain ⟨last, d', k, hl, hv, _, rfl, _⟩ := addDelay_shape h
  have hd := validateDuration_ok hc hv
  exact ⟨d', by rw [getDuration_false_snoc, getDuration_false_last hl], hd.2.2.1, hd.2.2.2.1, hd.2.2.2.2⟩

theorem delayCore_spec {s : SeqState} {n : ChName} {d : Nat} {c : ChanState} (hd : 0 < d)
    (hc : s.getChan n = some c) (hok : (delayCore s d n false).err = none) :
    ∃ c', addDelay s.dev.maxSeqDur c d = .ok c' ∧ (delayCore s d n false).st.getChan n = some c' ∧
      (∀ m, m ≠ n → (delayCore s d n false).st.getChan m = s.getChan m) ∧
      (delayCore s d n false).st.measured = s.measured ∧ (delayCore s d n false).st.dev = s.dev := by
  generalize hr : delayCore s d n false = r at hok ⊢
  unfold delayCore at hr
  by_cases g0 : s.measured.isSome = true
  · rw [if_pos g0] at hr; subst hr; cases hok
  · have hv : s.validateChannel n false = .ok c := by
      unfold SeqState.validateChannel; rw [hc]; simp
    have hd0 : ¬ ((d : Int) = 0) := fun h => Nat.ne_of_gt hd (Int.natCast_eq_zero.mp h)
    have hdn : ¬ ((d : Int) < 0) := Int.not_lt.mpr (Int.natCast_nonneg d)
    simp only [g0, hv, Bool.false_eq_true, if_false, Raw.bind, done, hd0, hdn, SeqState.withChan, hc,
      Int.toNat_natCast] at hr
    cases ha : addDelay s.dev.maxSeqDur c d with
    | error e => simp only [ha, CRes.lift] at hr; subst hr; cases hok
    | ok c' =>
      simp only [ha, CRes.lift] at hr; subst hr
      have hnm : c'.name = n := by
        obtain ⟨_, _, _, _, _, _, rfl, _⟩ := addDelay_shape ha
        exact (getChan_mem hc).2
      exact ⟨c', rfl, getChan_setChan_same hc hnm,
        fun m hm => by rw [getChan_setChan, if_neg (hnm ▸ hm)], rfl, rfl⟩

/-- One round of the loop of `align`: refused, nothing to do, or a `delay` of the adjusted gap
followed by the rest of the loop. -/
theorem alignLoop_cons (T : Int) (n : ChName) (t : Int) (rest : List (ChName × Int)) (s : SeqState) :
    (∃ e, alignLoop T ((n, t) :: rest) s = fail s e) ∨
    ∃ c, s.getChan n = some c ∧
      ((T ≤ c.getDuration false ∧ alignLoop T ((n, t) :: rest) s = alignLoop T rest s) ∨
       ∃ d : Nat, c.getDuration false < T ∧ c.adjust (T - c.getDuration false).toNat = .ok d ∧
         alignLoop T ((n, t) :: rest) s = (delayCore s (d : Int) n false).bind (alignLoop T rest)) := by
  rw [alignLoop]
  cases hc : s.getChan n with
  | none => exact .inl ⟨_, rfl⟩
  | some c =>
    simp only
    by_cases hpos : T - c.getDuration false > 0
    · rw [if_pos hpos]
      cases ha : c.adjust (T - c.getDuration false).toNat with
      | error e => exact .inl ⟨_, rfl⟩
      | ok d => exact .inr ⟨c, rfl, .inr ⟨d, Int.lt_of_sub_pos hpos, ha, rfl⟩⟩
    · rw [if_neg hpos]
      exact .inr ⟨c, rfl, .inl ⟨Int.le_of_sub_nonpos (Int.not_lt.mp hpos), rfl⟩⟩

end Pulser
