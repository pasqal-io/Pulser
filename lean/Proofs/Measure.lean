/-
  Proofs.Measure — helper lemmas for properties C11 and C20:
  bitstring weights, detection-error kernel, the `Results` store, evaluation-time
  bookkeeping, configuration re-creation, complex-rational matrices, number operators and
  occupations, the energy second moment, state-preparation errors, the overlap of two kets.
  (The sections are numbered for this file; the `§` of Properties/C11.lean and C20.lean are those
  of PulserModel/Measure.lean.)
-/
import Mathlib.Tactic.Ring
import Mathlib.Tactic.NormNum
import Mathlib.Algebra.Order.Group.Abs
import Mathlib.Algebra.Order.Ring.Cast
import Mathlib.Algebra.Order.Field.Rat
import Mathlib.Algebra.BigOperators.Group.List.Basic
import Mathlib.Algebra.Ring.MinimalAxioms
import Mathlib.Data.List.Nodup
import PulserModel.Measure
namespace Pulser.Measure

/-! ### 1. enumeration of bitstrings, weights convention -/

theorem bitsIndex_lt (bits : List Bool) : bitsIndex bits < 2 ^ bits.length := by
  induction bits with
  | nil => exact Nat.one_pos
  | cons b bs ih =>
    simp only [bitsIndex, List.length_cons, Nat.pow_succ]
    split <;> omega

theorem allBits_succ (n : Nat) :
    allBits (n + 1) = (allBits n).map (false :: ·) ++ (allBits n).map (true :: ·) := by
  simp [allBits]

theorem allBits_length (n : Nat) : (allBits n).length = 2 ^ n := by
  induction n with
  | zero => rfl
  | succ n ih =>
    rw [allBits_succ, List.length_append, List.length_map, List.length_map, ih, Nat.pow_succ, Nat.mul_two]

theorem allBits_getElem (b : List Bool) : (allBits b.length)[bitsIndex b]? = some b := by
  induction b with
  | nil => rfl
  | cons x bs ih =>
    have hlt := bitsIndex_lt bs
    rw [List.length_cons, allBits_succ, bitsIndex]
    cases x with
    | false =>
      rw [if_neg Bool.false_ne_true, Nat.zero_mul, Nat.zero_add,
        List.getElem?_append_left (by rwa [List.length_map, allBits_length]), List.getElem?_map, ih]
      rfl
    | true =>
      rw [if_pos rfl, Nat.one_mul,
        List.getElem?_append_right (by rw [List.length_map, allBits_length]; omega),
        List.length_map, allBits_length, Nat.add_sub_cancel_left, List.getElem?_map, ih]
      rfl

theorem lookup_map_allBits (f : List Bool → Rat) (b : List Bool) :
    lookup ((allBits b.length).map f) (bitsIndex b) = f b := by
  unfold lookup
  simp [List.getD_eq_getElem?_getD, allBits_getElem]

theorem mem_allBits_length (n : Nat) (b : List Bool) (h : b ∈ allBits n) : b.length = n := by
  induction n generalizing b with
  | zero => simp [allBits] at h; subst h; rfl
  | succ n ih =>
    simp only [allBits, List.mem_flatMap, List.mem_map] at h
    obtain ⟨x, _, c, hc, rfl⟩ := h
    simp [ih c hc]

theorem flatMap_ite_nil {α β} (p : α → Bool) (g : α → List β) (l : List α) :
    l.flatMap (fun a => if p a then g a else []) = (l.filter p).flatMap g := by
  induction l with
  | nil => rfl
  | cons a l ih =>
    simp only [List.flatMap_cons, List.filter_cons]
    by_cases h : p a <;> simp [h, ih]

theorem range_filter_beq (d one : Nat) (h : one < d) :
    (List.range d).filter (· == one) = [one] := by
  rw [List.filter_beq, List.count_eq_one_of_mem List.nodup_range (List.mem_range.mpr h)]
  rfl

/-- The basis states read as the bitstring `bits` (one-state ↦ 1, any other state ↦ 0), picked out of
all states, are the ones `_weights` enumerates for `bits`: what `weights_convention` turns on. -/
theorem filter_pattern_eq_sel (d one : Nat) (h : one < d) (bits : List Bool) :
    (allStates d bits.length).filter (fun σ => pattern one σ == bits) = selStates d one bits := by
  induction bits with
  | nil => simp [allStates, selStates, pattern]
  | cons b bs ih =>
    -- the digits allowed in the first place
    have hd : (if b then [one] else (List.range d).filter (· != one))
        = (List.range d).filter fun a => (a == one) == b := by
      cases b
      · exact List.filter_congr fun a _ => by simp [bne]
      · rw [if_pos rfl, ← range_filter_beq d one h]; exact List.filter_congr fun a _ => by simp
    -- a state `a :: σ` reads as `b :: bs` iff `a` is allowed and `σ` reads as `bs`
    have key : ∀ a, ((allStates d bs.length).map (a :: ·)).filter (fun σ => pattern one σ == b :: bs) =
        if ((a == one) == b) then (selStates d one bs).map (a :: ·) else [] := by
      intro a
      rw [List.filter_map, ← ih]
      have : ((fun σ => pattern one σ == b :: bs) ∘ (a :: ·))
          = fun σ => ((a == one) == b) && (pattern one σ == bs) := by
        funext σ; simp [pattern, Bool.beq_eq_decide_eq]
      rw [this]; cases ((a == one) == b) <;> simp
    rw [List.length_cons, allStates, selStates, List.filter_flatMap, hd, ← flatMap_ite_nil]
    simp only [key]

/-- weights convention (d = 3, 4 branch of `_weights`, and `bitstring_probabilities`). -/
theorem weightIx_eq_spec (d n one : Nat) (h : one < d) (probs : List Rat) (bits : List Bool)
    (hn : bits.length = n) : weightIx d one probs bits = weightSpec d n one probs bits := by
  subst hn
  unfold weightIx weightSpec
  rw [filter_pattern_eq_sel d one h]

/-! ### 2. dimension 2: one basis state per bitstring, reversed order -/

/-- the single basis state a bitstring stands for when d = 2 -/
def stateOfBits (one : Nat) (bits : List Bool) : List Nat := bits.map fun b => if b then one else 1 - one

theorem selStates_two (one : Nat) (h : one < 2) (bits : List Bool) :
    selStates 2 one bits = [stateOfBits one bits] := by
  induction bits with
  | nil => rfl
  | cons b bs ih =>
    have h2 : (List.range 2).filter (· != one) = [1 - one] := by
      rcases Nat.le_one_iff_eq_zero_or_eq_one.mp (Nat.le_of_lt_succ h) with rfl | rfl <;> decide
    cases b <;> simp [selStates, ih, stateOfBits, h2]

theorem index_stateOfBits_one (bits : List Bool) : index 2 (stateOfBits 1 bits) = bitsIndex bits := by
  induction bits with
  | nil => rfl
  | cons b bs ih =>
    simp only [stateOfBits, List.map_cons, index, List.length_map, bitsIndex] at ih ⊢
    rw [ih]

/-- `reverse_is_complement`: with `r ↦ 1` and `r` stored first, the basis state read as
bitstring `b` and the one read as its complement sit at positions that add up to `2ⁿ − 1`. -/
theorem index_stateOfBits_zero (bits : List Bool) :
    index 2 (stateOfBits 0 bits) = 2 ^ bits.length - 1 - bitsIndex bits := by
  suffices h : index 2 (stateOfBits 0 bits) + bitsIndex bits + 1 = 2 ^ bits.length from
    Nat.eq_sub_of_add_eq (Nat.eq_sub_of_add_eq h)
  induction bits with
  | nil => rfl
  | cons b bs ih =>
    have e : index 2 (stateOfBits 0 (b :: bs)) + bitsIndex (b :: bs)
        = 2 ^ bs.length + (index 2 (stateOfBits 0 bs) + bitsIndex bs) := by
      cases b <;> simp only [stateOfBits, List.map_cons, index, bitsIndex, List.length_map, if_true,
        Bool.false_eq_true, if_false, Nat.sub_zero, Nat.one_mul, Nat.zero_mul] <;> omega
    rw [e, List.length_cons, Nat.pow_succ, Nat.add_assoc, ih, Nat.mul_two]

theorem lookup_reverse (l : List Rat) (i : Nat) (h : i < l.length) :
    lookup l.reverse i = lookup l (l.length - 1 - i) := by
  unfold lookup
  rw [List.getD_eq_getElem?_getD, List.getD_eq_getElem?_getD, List.getElem?_reverse h]

/-! ### 3. sums -/

theorem sum_map_div (l : List Rat) (s : Rat) : (l.map (· / s)).sum = l.sum / s := by
  induction l with
  | nil => simp
  | cons a l ih => simp [List.sum_cons, ih, add_div]

theorem normalise_sum_one (w : List Rat) (h : w.sum ≠ 0) : (normalise w).sum = 1 := by
  unfold normalise
  rw [sum_map_div, div_self h]

theorem sum_flatMap {α β} (l : List α) (h : α → List β) (g : β → Rat) :
    ((l.flatMap h).map g).sum = (l.map fun a => ((h a).map g).sum).sum := by
  induction l with
  | nil => simp
  | cons a l ih => simp [List.flatMap_cons, List.sum_append, ih]

theorem sum_swap {α β M} [AddCommMonoid M] (l1 : List α) (l2 : List β) (g : α → β → M) :
    (l1.map fun x => (l2.map fun y => g x y).sum).sum =
    (l2.map fun y => (l1.map fun x => g x y).sum).sum := by
  induction l1 with
  | nil => simp
  | cons a l ih => simp only [List.map_cons, List.sum_cons, ih, List.sum_map_add]

theorem sum_map_mul_left {α R} [Semiring R] (l : List α) (c : R) (g : α → R) :
    (l.map fun y => c * g y).sum = c * (l.map g).sum := by
  induction l with
  | nil => simp
  | cons a l ih => simp [ih, mul_add]

theorem sum_sel_partition (d one : Nat) (h : one < d) (n : Nat) :
    ∀ (f : List Nat → Rat),
    ((allBits n).map fun bits => ((selStates d one bits).map f).sum).sum =
      ((allStates d n).map f).sum := by
  induction n with
  | zero => intro f; simp [allBits, selStates, allStates]
  | succ n ih =>
    intro f
    simp only [allBits, allStates]
    rw [sum_flatMap, sum_flatMap]
    simp only [List.map_map, Function.comp_def, selStates, sum_flatMap]
    -- left: over b ∈ [false,true], bs, a ∈ S b, σ ; right: over a ∈ range d, σ
    have inner : ∀ (S : List Nat),
        ((allBits n).map fun bs => (S.map fun a => ((selStates d one bs).map fun σ => f (a :: σ)).sum).sum).sum
        = (S.map fun a => ((allStates d n).map fun σ => f (a :: σ)).sum).sum := by
      intro S
      rw [sum_swap]
      congr 1
      apply List.map_congr_left
      intro a _
      exact ih (fun σ => f (a :: σ))
    simp only [List.map_cons, List.map_nil, List.sum_cons, List.sum_nil, Bool.false_eq_true, if_false,
      if_true, add_zero]
    rw [inner, ih (fun σ => f (one :: σ))]
    -- right: `range d` split into `one` and the rest (`decide (· = one)` is `· == one` unfolded)
    rw [← List.sum_map_filter_add_sum_map_filter_not (· = one) _ (List.range d),
      show (List.range d).filter (fun b => decide (b = one)) = [one] from range_filter_beq d one h]
    simp only [decide_not, List.map_cons, List.map_nil, List.sum_cons, List.sum_nil, add_zero]
    exact add_comm _ _

/-! ### 4. detection-error kernel -/

theorem flip1_sum (eps epsp : Rat) (b : Bool) : flip1 eps epsp b false + flip1 eps epsp b true = 1 := by
  cases b <;> simp [flip1]

theorem flipKernel_sum_one (eps epsp : Rat) (b : List Bool) :
    ((allBits b.length).map (flipKernel eps epsp b)).sum = 1 := by
  induction b with
  | nil => simp [allBits, flipKernel]
  | cons b bs ih =>
    simp only [List.length_cons, allBits]
    rw [sum_flatMap]
    simp only [List.map_map, Function.comp_def, flipKernel, sum_map_mul_left, ih]
    simp [flip1_sum]

theorem flipKernel_marginal (eps epsp : Rat) (v : Bool) :
    ∀ (b : List Bool) (i : Nat), i < b.length →
    (((allBits b.length).filter fun c => c.getD i false == v).map (flipKernel eps epsp b)).sum =
      flip1 eps epsp (b.getD i false) v := by
  intro b
  induction b with
  | nil => intro i hi; simp at hi
  | cons b bs ih =>
    intro i hi
    simp only [List.length_cons, allBits]
    rw [List.filter_flatMap, sum_flatMap]
    simp only [List.filter_map, List.map_map, Function.comp_def, flipKernel, sum_map_mul_left,
      List.map_cons, List.map_nil, List.sum_cons, List.sum_nil, add_zero]
    cases i with
    | zero =>
      -- the first bit is the one asked about: the rest sums to one
      simp only [List.getD_cons_zero]
      cases v <;> simp [flipKernel_sum_one eps epsp bs]
    | succ k =>
      -- the first bit is summed out
      simp only [List.getD_cons_succ]
      rw [ih k (Nat.lt_of_succ_lt_succ hi), ← add_mul, flip1_sum, one_mul]

/-! ### 5. Results store -/

theorem alookup_aset {β} (k k' : Nat) (v : β) (l : List (Nat × β)) :
    alookup k' (aset k v l) = if k' = k then some v else alookup k' l := by
  induction l with
  | nil => simp [aset, alookup, eq_comm]
  | cons p l ih =>
    obtain ⟨k'', v''⟩ := p
    by_cases h1 : k'' = k
    · subst h1
      by_cases h2 : k' = k''
      · simp [aset, alookup, h2]
      · simp [aset, alookup, h2, Ne.symm h2]
    · by_cases h2 : k'' = k'
      · subst h2; simp [aset, alookup, h1]
      · simp [aset, alookup, h1, h2, ih]

theorem aset_self {β} (k : Nat) (v : β) (l : List (Nat × β)) (h : alookup k l = some v) : aset k v l = l := by
  induction l with
  | nil => simp [alookup] at h
  | cons p l ih =>
    obtain ⟨k', v'⟩ := p
    by_cases h1 : k' = k
    · simp [alookup, h1] at h; simp [aset, h1, h]
    · simp [alookup, h1] at h; simp [aset, h1, ih h]

def timesOf (s : Store) (u : Nat) : List Rat := (alookup u s.times).getD []
def valsOf (s : Store) (u : Nat) : List Int := (alookup u s.vals).getD []

def StrictAsc (l : List Rat) : Prop := l.Pairwise (· < ·)

/-- The invariant of the `Results` object. -/
def StoreInv (s : Store) : Prop :=
  ∀ u, StrictAsc (timesOf s u) ∧ (timesOf s u).length = (valsOf s u).length

theorem strictAsc_append {l : List Rat} (h : StrictAsc l) {t : Rat} (ha : okToAppend l t = true) :
    StrictAsc (l ++ [t]) := by
  refine List.pairwise_append.mpr ⟨h, List.pairwise_singleton _ _, fun x hx y hy => ?_⟩
  obtain rfl := List.mem_singleton.mp hy
  -- `l` is empty, or ends in some `last < t` that bounds the rest
  rcases List.eq_nil_or_concat' l with rfl | ⟨l', last, rfl⟩
  · cases hx
  · have hlt : last < y := by simpa [okToAppend] using ha
    rcases List.mem_append.mp hx with hx | hx
    · exact lt_trans ((List.pairwise_append.mp h).2.2 x hx last (List.mem_singleton_self _)) hlt
    · rwa [List.mem_singleton.mp hx]

theorem valsOf_aset (s : Store) (u u' : Nat) (vs : List Int) :
    (alookup u' (aset u vs s.vals)).getD [] = if u' = u then vs else valsOf s u' := by
  by_cases h : u' = u <;> simp [alookup_aset, h, valsOf]

/-- The three ways `_store_raw` can end: the time is already there (`RuntimeError`, only the
`setdefault` has happened), it is not above the last one (`AssertionError`, the tag is recorded
as well), or time and value are appended. -/
theorem storeRaw_cases (s : Store) (u tag : Nat) (t : Rat) (v : Int) :
    (t ∈ timesOf s u ∧ storeRaw s u tag t v =
        ⟨{ s with times := aset u (timesOf s u) s.times }, some .runtime⟩) ∨
    (t ∉ timesOf s u ∧ okToAppend (timesOf s u) t = false ∧ storeRaw s u tag t v =
        ⟨{ times := aset u (timesOf s u) s.times, vals := s.vals, tagmap := aset tag u s.tagmap },
          some .assertion⟩) ∨
    (t ∉ timesOf s u ∧ okToAppend (timesOf s u) t = true ∧ storeRaw s u tag t v =
        ⟨{ times := aset u (timesOf s u ++ [t]) (aset u (timesOf s u) s.times),
           vals := aset u (valsOf s u ++ [v]) s.vals, tagmap := aset tag u s.tagmap }, none⟩) := by
  unfold storeRaw timesOf valsOf
  by_cases hc : t ∈ (alookup u s.times).getD []
  · exact Or.inl ⟨hc, by simp [hc]⟩
  · cases ha : okToAppend ((alookup u s.times).getD []) t
    · exact Or.inr (Or.inl ⟨hc, rfl, by simp [hc, ha]⟩)
    · exact Or.inr (Or.inr ⟨hc, rfl, by simp [hc, ha]⟩)

/-- A call that does not raise found a new time above the last one and appended time and value. -/
theorem storeRaw_ok (s : Store) (u tag : Nat) (t : Rat) (v : Int)
    (h : (storeRaw s u tag t v).err = none) :
    t ∉ timesOf s u ∧ okToAppend (timesOf s u) t = true ∧ (storeRaw s u tag t v).st =
      { times := aset u (timesOf s u ++ [t]) (aset u (timesOf s u) s.times),
        vals := aset u (valsOf s u ++ [v]) s.vals,
        tagmap := aset tag u s.tagmap } := by
  rcases storeRaw_cases s u tag t v with ⟨_, e⟩ | ⟨_, _, e⟩ | ⟨hc, ha, e⟩ <;> rw [e] at h ⊢
  · cases h
  · cases h
  · exact ⟨hc, ha, rfl⟩

theorem storeRaw_timesOf (s : Store) (u tag : Nat) (t : Rat) (v : Int) (u' : Nat) :
    timesOf (storeRaw s u tag t v).st u' =
      if u' = u ∧ (storeRaw s u tag t v).err = none then timesOf s u ++ [t] else timesOf s u' := by
  rcases storeRaw_cases s u tag t v with ⟨_, e⟩ | ⟨_, _, e⟩ | ⟨_, _, e⟩ <;> rw [e] <;>
    by_cases h : u' = u <;> simp [timesOf, alookup_aset, h]

theorem storeRaw_valsOf (s : Store) (u tag : Nat) (t : Rat) (v : Int) (u' : Nat) :
    valsOf (storeRaw s u tag t v).st u' =
      if u' = u ∧ (storeRaw s u tag t v).err = none then valsOf s u ++ [v] else valsOf s u' := by
  rcases storeRaw_cases s u tag t v with ⟨_, e⟩ | ⟨_, _, e⟩ | ⟨_, _, e⟩ <;> rw [e]
  · exact (if_neg fun h => nomatch h.2).symm
  · exact (if_neg fun h => nomatch h.2).symm
  · exact (valsOf_aset s u u' _).trans (by simp only [and_true])

theorem storeRaw_inv (s : Store) (hs : StoreInv s) (u tag : Nat) (t : Rat) (v : Int) :
    StoreInv (storeRaw s u tag t v).st := by
  intro u'
  rw [storeRaw_timesOf, storeRaw_valsOf]
  split
  · next h =>
    obtain ⟨rfl, herr⟩ := h
    obtain ⟨_, ha, _⟩ := storeRaw_ok s u' tag t v herr
    obtain ⟨h1, h2⟩ := hs u'
    exact ⟨strictAsc_append h1 ha, by simp [h2]⟩
  · exact hs u'

theorem storeRaw_tagmap (s : Store) (u' tag' : Nat) (t : Rat) (v : Int) :
    (storeRaw s u' tag' t v).st.tagmap = s.tagmap ∨
    (storeRaw s u' tag' t v).st.tagmap = aset tag' u' s.tagmap := by
  rcases storeRaw_cases s u' tag' t v with ⟨_, e⟩ | ⟨_, _, e⟩ | ⟨_, _, e⟩ <;> rw [e]
  · exact Or.inl rfl
  · exact Or.inr rfl
  · exact Or.inr rfl

theorem idxOfTime_append_new (ts : List Rat) (t : Rat) (h : t ∉ ts) :
    idxOfTime t (ts ++ [t]) = some ts.length := by
  induction ts with
  | nil => simp [idxOfTime]
  | cons x xs ih =>
    have hx : ¬ x = t := fun e => h (by simp [e])
    have hxs : t ∉ xs := fun e => h (by simp [e])
    simp [idxOfTime, hx, ih hxs]

theorem idxOfTime_append_old (ts : List Rat) (t t0 : Rat) (i : Nat) (h : idxOfTime t0 ts = some i) :
    idxOfTime t0 (ts ++ [t]) = some i := by
  induction ts generalizing i with
  | nil => simp [idxOfTime] at h
  | cons x xs ih =>
    by_cases hx : x = t0
    · simp [idxOfTime, hx] at h ⊢; exact h
    · simp only [idxOfTime, hx, if_false, Option.map_eq_some_iff, List.cons_append] at h ⊢
      obtain ⟨j, hj, rfl⟩ := h
      exact ⟨j, ih j hj, rfl⟩

/-- `get_result` reads the store only through `timesOf` and `valsOf`. -/
theorem getResult_ok_iff (s : Store) (u : Nat) (t : Rat) (v : Int) :
    getResult s u t = .ok v ↔ ∃ i, idxOfTime t (timesOf s u) = some i ∧ (valsOf s u)[i]? = some v := by
  unfold getResult timesOf valsOf
  cases alookup u s.times with
  | none => simp [idxOfTime]
  | some ts =>
    cases alookup u s.vals with
    | none => simp
    | some vs =>
      cases h : idxOfTime t ts with
      | none => simp [h]
      | some i =>
        simp only [Option.getD_some, h, Option.some.injEq, exists_eq_left']
        cases vs[i]? <;> simp

theorem store_get (s : Store) (hs : StoreInv s) (u tag : Nat) (t : Rat) (v : Int)
    (h : (storeRaw s u tag t v).err = none) :
    getResult (storeRaw s u tag t v).st u t = .ok v ∧
    findByObs (storeRaw s u tag t v).st u = .ok u ∧
    findByTag (storeRaw s u tag t v).st tag = .ok u := by
  obtain ⟨hc, _, est⟩ := storeRaw_ok s u tag t v h
  refine ⟨?_, ?_, ?_⟩
  · rw [getResult_ok_iff, storeRaw_timesOf, storeRaw_valsOf, if_pos ⟨rfl, h⟩, if_pos ⟨rfl, h⟩]
    exact ⟨_, idxOfTime_append_new _ _ hc, by rw [(hs u).2, List.getElem?_concat_length]⟩
  · rw [est]; simp [findByObs, alookup_aset]
  · rw [est]; simp [findByTag, alookup_aset]

theorem store_preserves (s : Store) (u0 : Nat) (t0 : Rat) (v0 : Int)
    (h0 : getResult s u0 t0 = .ok v0) (u tag : Nat) (t : Rat) (v : Int) :
    getResult (storeRaw s u tag t v).st u0 t0 = .ok v0 := by
  rw [getResult_ok_iff] at h0 ⊢
  obtain ⟨i, hi, hv⟩ := h0
  rw [storeRaw_timesOf, storeRaw_valsOf]
  split
  · next h =>
    obtain ⟨rfl, _⟩ := h
    exact ⟨i, idxOfTime_append_old _ t t0 i hi,
      by rw [List.getElem?_append_left (List.getElem?_eq_some_iff.mp hv).1]; exact hv⟩
  · exact ⟨i, hi, hv⟩

theorem storeInv_empty : StoreInv ({} : Store) := by
  intro u; simp [timesOf, valsOf, alookup, StrictAsc]

end Pulser.Measure

/- `Req` and `runStore` stand here, not in Properties/C20.lean, because `C20.store_invariant` and
`C20.store_retrievable` both rest on `runStore_inv`. -/
namespace Pulser.C20
open Measure

/-- A request to `Results._store_raw`. -/
structure Req where
  uuid : Nat
  tag : Nat
  time : Rat
  value : Int

/-- Any history of `_store` calls; a raising call leaves what Python leaves. -/
def runStore (s : Store) : List Req → Store
  | [] => s
  | r :: rest => runStore (storeRaw s r.uuid r.tag r.time r.value).st rest

theorem runStore_inv (reqs : List Req) (s : Store) (hs : StoreInv s) : StoreInv (runStore s reqs) := by
  induction reqs generalizing s with
  | nil => exact hs
  | cons r rest ih => exact ih _ (storeRaw_inv s hs r.uuid r.tag r.time r.value)

end Pulser.C20

namespace Pulser.Measure

/-! ### 6. evaluation times, configuration -/

theorem inTimes_iff (t : Rat) (l : List Rat) (tol : Rat) :
    inTimes t l tol = true ↔ (0 ≤ t ∧ t ≤ 1 ∧ ∃ x ∈ l, absR (x - t) ≤ tol) := by
  simp only [inTimes, Bool.and_eq_true, decide_eq_true_eq, List.any_eq_true, and_assoc]

theorem absR_eq_abs (x : Rat) : absR x = |x| := by
  unfold absR
  split
  · next h => exact (abs_of_neg h).symm
  · next h => exact (abs_of_nonneg (not_lt.mp h)).symm

theorem absR_nonneg (x : Rat) : 0 ≤ absR x := by
  rw [absR_eq_abs]; exact abs_nonneg x

theorem absR_le_iff (x b : Rat) : absR x ≤ b ↔ (-b ≤ x ∧ x ≤ b) := by
  rw [absR_eq_abs]; exact abs_le

theorem mem_insertUniq (x y : Rat) (l : List Rat) : y ∈ insertUniq x l ↔ (y = x ∨ y ∈ l) := by
  induction l with
  | nil => simp [insertUniq]
  | cons a l ih =>
    rw [insertUniq]
    split
    · exact List.mem_cons
    · split
      · next h => rw [h, List.mem_cons, or_self_left]
      · rw [List.mem_cons, ih, List.mem_cons, or_left_comm]

theorem insertUniq_strictAsc (x : Rat) (l : List Rat) (h : StrictAsc l) : StrictAsc (insertUniq x l) := by
  induction l with
  | nil => simp [insertUniq, StrictAsc]
  | cons a l ih =>
    unfold insertUniq
    obtain ⟨ha, hl⟩ := List.pairwise_cons.mp h
    split
    · rename_i hxa
      refine List.pairwise_cons.mpr ⟨?_, h⟩
      intro y hy
      rcases List.mem_cons.mp hy with rfl | hy
      · exact hxa
      · exact lt_trans hxa (ha y hy)
    · split
      · exact h
      · rename_i h1 h2
        refine List.pairwise_cons.mpr ⟨?_, ih hl⟩
        intro y hy
        rcases (mem_insertUniq x y l).mp hy with rfl | hy
        · exact lt_of_le_of_ne (not_lt.mp h1) fun e => h2 e.symm
        · exact ha y hy

theorem union1d_strictAsc (a b : List Rat) : StrictAsc (union1d a b) := by
  unfold union1d
  induction (a ++ b) with
  | nil => simp [StrictAsc]
  | cons x l ih => simpa using insertUniq_strictAsc x _ ih

theorem mem_union1d (a b : List Rat) (y : Rat) : y ∈ union1d a b ↔ (y ∈ a ∨ y ∈ b) := by
  unfold union1d
  rw [← List.mem_append]
  induction (a ++ b) with
  | nil => simp
  | cons x l ih => simp [mem_insertUniq, ih]

theorem strictAsc_map_mul (l : List Rat) (c : Rat) (hc : 0 < c) (h : StrictAsc l) :
    StrictAsc (l.map (· * c)) := by
  unfold StrictAsc at *
  rw [List.pairwise_map]
  exact h.imp fun hab => mul_lt_mul_of_pos_right hab hc

theorem linspaceInt_le (last m : Nat) : ∀ k ∈ linspaceInt last m, k ≤ last := by
  intro k hk
  unfold linspaceInt at hk
  split at hk
  · cases hk
  · split at hk
    · exact List.mem_singleton.mp hk ▸ Nat.zero_le _
    · obtain ⟨i, hi, rfl⟩ := List.mem_map.mp hk
      exact Nat.div_le_of_le_mul (Nat.mul_le_mul_right last (Nat.le_sub_one_of_lt (List.mem_range.mp hi)))

/-- The relative times `legacyEvalTimesRaw` starts from: the default times, `"Full"` expanded
through the sampling indices. -/
def relSource (dflt : DefaultTimes) (T m : Nat) : List Rat :=
  match dflt with
  | .full => (samplingIndices T m).map fun (i : Nat) => (i : Rat) / (T : Rat)
  | .times l => l

theorem legacyEvalTimesRaw_some {dflt : DefaultTimes} {extras : List Rat} {T m : Nat} {r : List Rat}
    (h : legacyEvalTimesRaw dflt extras T m = some r) :
    ∃ rel, r = rel.map (· * ((T : Rat) / 1000)) ∧
      (dflt = .times rel ∨ rel = union1d (relSource dflt T m) extras) := by
  unfold legacyEvalTimesRaw at h
  split at h
  · cases dflt with
    | full => cases h
    | times l => exact ⟨l, (Option.some.inj h).symm, Or.inl rfl⟩
  · exact ⟨_, (Option.some.inj h).symm, Or.inr (by cases dflt <;> rfl)⟩

theorem relSource_bounds (dflt : DefaultTimes) (T m : Nat) (hT : T ≠ 0)
    (hd : ∀ l, dflt = .times l → ∀ x ∈ l, 0 ≤ x ∧ x ≤ 1) : ∀ x ∈ relSource dflt T m, 0 ≤ x ∧ x ≤ 1 := by
  cases dflt with
  | times l => exact hd l rfl
  | full =>
    intro x hx
    obtain ⟨i, hi, rfl⟩ := List.mem_map.mp hx
    have hTpos : (0 : Rat) < T := Nat.cast_pos.mpr (Nat.pos_of_ne_zero hT)
    have hle : i ≤ T := Nat.le_trans (linspaceInt_le _ _ i hi) (Nat.sub_le T 1)
    exact ⟨div_nonneg (Nat.cast_nonneg i) hTpos.le,
      (div_le_iff₀ hTpos).mpr ((one_mul (T : Rat)).symm ▸ Nat.cast_le.mpr hle)⟩

theorem legacyEvalTimesRaw_sorted (dflt : DefaultTimes) (extras : List Rat) (T m : Nat) (hT : T ≠ 0)
    (hd : ∀ l, dflt = .times l → StrictAsc l) (r : List Rat)
    (h : legacyEvalTimesRaw dflt extras T m = some r) : StrictAsc r := by
  have hpos : (0 : Rat) < (T : Rat) / 1000 :=
    div_pos (Nat.cast_pos.mpr (Nat.pos_of_ne_zero hT)) (by norm_num)
  obtain ⟨rel, rfl, hrel | rfl⟩ := legacyEvalTimesRaw_some h
  · exact strictAsc_map_mul _ _ hpos (hd rel hrel)
  · exact strictAsc_map_mul _ _ hpos (union1d_strictAsc _ _)

theorem legacyEvalTimesRaw_bounds (dflt : DefaultTimes) (extras : List Rat) (T m : Nat) (hT : T ≠ 0)
    (hd : ∀ l, dflt = .times l → ∀ x ∈ l, 0 ≤ x ∧ x ≤ 1)
    (he : ∀ x ∈ extras, 0 ≤ x ∧ x ≤ 1) (r : List Rat)
    (h : legacyEvalTimesRaw dflt extras T m = some r) : ∀ x ∈ r, 0 ≤ x ∧ x ≤ (T : Rat) / 1000 := by
  have hpos : (0 : Rat) ≤ (T : Rat) / 1000 := div_nonneg (Nat.cast_nonneg T) (by norm_num)
  obtain ⟨rel, rfl, hrel⟩ := legacyEvalTimesRaw_some h
  have hb : ∀ y ∈ rel, 0 ≤ y ∧ y ≤ 1 := by
    rcases hrel with hrel | rfl
    · exact hd rel hrel
    · intro y hy
      rcases (mem_union1d _ _ y).mp hy with hy | hy
      · exact relSource_bounds dflt T m hT hd y hy
      · exact he y hy
  intro x hx
  obtain ⟨y, hy, rfl⟩ := List.mem_map.mp hx
  exact ⟨mul_nonneg (hb y hy).1 hpos, mul_le_of_le_one_left hpos (hb y hy).2⟩

theorem clipTo_of_le (b x : Rat) (h : x ≤ b) : clipTo b x = x := by
  unfold clipTo; simp [h]

theorem clipTo_le (b x : Rat) : clipTo b x ≤ b := by
  unfold clipTo; split
  · assumption
  · exact le_refl _

/-- With relative times inside `[0, 1]` the clipping (repair of F30) never changes anything over
the rationals. -/
theorem legacyEvalTimes_eq_raw (dflt : DefaultTimes) (extras : List Rat) (T m : Nat) (hT : T ≠ 0)
    (hd : ∀ l, dflt = .times l → ∀ x ∈ l, 0 ≤ x ∧ x ≤ 1)
    (he : ∀ x ∈ extras, 0 ≤ x ∧ x ≤ 1) :
    legacyEvalTimes dflt extras T m = legacyEvalTimesRaw dflt extras T m := by
  unfold legacyEvalTimes
  cases h : legacyEvalTimesRaw dflt extras T m with
  | none => rfl
  | some l =>
    have hb := legacyEvalTimesRaw_bounds dflt extras T m hT hd he l h
    rw [Option.map_some, List.map_congr_left fun x hx => clipTo_of_le _ _ (hb x hx).2, List.map_id']

theorem legacyEvalTimes_le (dflt : DefaultTimes) (extras : List Rat) (T m : Nat) (r : List Rat)
    (h : legacyEvalTimes dflt extras T m = some r) : ∀ x ∈ r, x ≤ (T : Rat) / 1000 := by
  obtain ⟨l, _, rfl⟩ := Option.map_eq_some_iff.mp h
  intro x hx
  obtain ⟨y, _, rfl⟩ := List.mem_map.mp hx
  exact clipTo_le _ _

theorem setEvaluationTimes_spec (T : Nat) (value : List Rat)
    (hv : ∀ x ∈ value, 0 ≤ x ∧ x ≤ (T : Rat) / 1000) :
    ∃ r, setEvaluationTimes T value = some r ∧ StrictAsc r ∧
      ∀ y, y ∈ r ↔ (y ∈ value ∨ y = 0 ∨ y = (T : Rat) / 1000) := by
  unfold setEvaluationTimes
  rw [if_neg, if_neg]
  · exact ⟨_, rfl, union1d_strictAsc _ _, fun y => by simp [mem_union1d]⟩
  · rw [List.any_eq_true]; exact fun ⟨x, hx, h⟩ => not_lt.mpr (hv x hx).1 (of_decide_eq_true h)
  · rw [List.any_eq_true]; exact fun ⟨x, hx, h⟩ => not_lt.mpr (hv x hx).2 (of_decide_eq_true h)

theorem ok_of_ite_error {ε α} {c : Prop} [Decidable c] {e : ε} {x : Except ε α} {y : α}
    (h : (if c then .error e else x) = .ok y) : x = .ok y := by
  split at h
  · cases h
  · exact h

theorem validateEvalTimes_ok (l l' : List Rat) (h : validateEvalTimes l = .ok l') : l' = l :=
  (Except.ok.inj (ok_of_ite_error (ok_of_ite_error (ok_of_ite_error h)))).symm

/-- `EmulationConfig.__init__` only validates: what it stores is what it was given. -/
theorem cfgInit_ok (a c : CfgArgs) (h : cfgInit a = .ok c) : c = a := by
  have h := ok_of_ite_error h
  split at h
  · exact (Except.ok.inj h).symm
  · next l hd =>
    split at h
    · next l' hv =>
      cases validateEvalTimes_ok l l' hv
      rw [← hd] at h
      exact (Except.ok.inj h).symm
    · cases h

/-! ### 7. complex rationals, matrices, operators -/

namespace CQ
@[ext] theorem ext' {a b : CQ} (h1 : a.re = b.re) (h2 : a.im = b.im) : a = b := by
  cases a; cases b; simp_all

@[simp] theorem add_re (a b : CQ) : (a + b).re = a.re + b.re := rfl
@[simp] theorem add_im (a b : CQ) : (a + b).im = a.im + b.im := rfl
@[simp] theorem mul_re (a b : CQ) : (a * b).re = a.re * b.re - a.im * b.im := rfl
@[simp] theorem mul_im (a b : CQ) : (a * b).im = a.re * b.im + a.im * b.re := rfl
@[simp] theorem neg_re (a : CQ) : (-a).re = -a.re := rfl
@[simp] theorem neg_im (a : CQ) : (-a).im = -a.im := rfl
@[simp] theorem sub_re (a b : CQ) : (a - b).re = a.re - b.re := rfl
@[simp] theorem sub_im (a b : CQ) : (a - b).im = a.im - b.im := rfl
@[simp] theorem zero_re : (0 : CQ).re = 0 := rfl
@[simp] theorem zero_im : (0 : CQ).im = 0 := rfl
@[simp] theorem one_re : (1 : CQ).re = 1 := rfl
@[simp] theorem one_im : (1 : CQ).im = 0 := rfl
@[simp] theorem conj_re (a : CQ) : a.conj.re = a.re := rfl
@[simp] theorem conj_im (a : CQ) : a.conj.im = -a.im := rfl

theorem sub_eq (a b : CQ) : a - b = a + -b := ext' (sub_eq_add_neg a.re b.re) (sub_eq_add_neg a.im b.im)

-- `sub` is the model's component-wise subtraction, so that `ring` sees through the `-` of the model
instance : CommRing CQ :=
  { CommRing.ofMinimalAxioms
      (fun _ _ _ => ext' (add_assoc _ _ _) (add_assoc _ _ _))
      (fun _ => ext' (zero_add _) (zero_add _))
      (fun _ => ext' (neg_add_cancel _) (neg_add_cancel _))
      (fun a b c => by ext <;> simp only [mul_re, mul_im] <;> ring)
      (fun a b => by ext <;> simp only [mul_re, mul_im] <;> ring)
      (fun a => by ext <;> simp)
      (fun a b c => by ext <;> simp only [mul_re, mul_im, add_re, add_im] <;> ring) with
    sub := fun a b => a - b
    sub_eq_add_neg := sub_eq }

theorem conj_add (a b : CQ) : (a + b).conj = a.conj + b.conj := ext' rfl (neg_add _ _)
theorem conj_mul (a b : CQ) : (a * b).conj = a.conj * b.conj := by
  ext <;> simp only [mul_re, mul_im, conj_re, conj_im] <;> ring
theorem conj_conj (a : CQ) : a.conj.conj = a := by ext <;> simp
theorem conj_zero : (0 : CQ).conj = 0 := by ext <;> simp
theorem normSq_conj (a : CQ) : a.conj.normSq = a.normSq := by simp [normSq]
theorem mul_conj (a : CQ) : a * a.conj = ofRat a.normSq := by
  ext <;> simp only [mul_re, mul_im, conj_re, conj_im, normSq, ofRat] <;> ring
theorem normSq_nonneg (a : CQ) : 0 ≤ a.normSq :=
  add_nonneg (mul_self_nonneg a.re) (mul_self_nonneg a.im)
end CQ

theorem sumTo_congr (n : Nat) (g h : Nat → CQ) (e : ∀ k, k < n → g k = h k) : sumTo n g = sumTo n h := by
  induction n with
  | zero => rfl
  | succ n ih =>
    simp only [sumTo]
    rw [ih (fun k hk => e k (by omega)), e n (by omega)]

theorem sumTo_eq_list (n : Nat) (g : Nat → CQ) : sumTo n g = ((List.range n).map g).sum := by
  induction n with
  | zero => simp [sumTo]
  | succ n ih => simp [sumTo, ih, List.range_succ]

theorem sumTo_add (n : Nat) (g h : Nat → CQ) : sumTo n (fun k => g k + h k) = sumTo n g + sumTo n h := by
  simp only [sumTo_eq_list, List.sum_map_add]

theorem sumTo_swap (n m : Nat) (g : Nat → Nat → CQ) :
    sumTo n (fun i => sumTo m (fun j => g i j)) = sumTo m (fun j => sumTo n (fun i => g i j)) := by
  simp only [sumTo_eq_list]
  exact sum_swap _ _ g

theorem sumTo_mul_left (n : Nat) (c : CQ) (g : Nat → CQ) : c * sumTo n g = sumTo n (fun k => c * g k) := by
  simp only [sumTo_eq_list, sum_map_mul_left]

theorem sumTo_mul_right (n : Nat) (c : CQ) (g : Nat → CQ) : sumTo n g * c = sumTo n (fun k => g k * c) := by
  simp only [mul_comm _ c, sumTo_mul_left]

theorem sumTo_one (g : Nat → CQ) : sumTo 1 g = g 0 := by simp [sumTo]

theorem expectDM_pure (A psi : Mat) (hc : psi.c = 1) (hr : A.r = psi.r) :
    expectDM A (pureDM psi) = expectKet A psi := by
  unfold expectDM expectKet pureDM Mat.trace Mat.mul Mat.dagger
  simp only [hc, sumTo_one, hr]
  apply sumTo_congr
  intro k _
  rw [sumTo_mul_left]
  apply sumTo_congr
  intro j _
  ring

theorem probs_pure (psi : Mat) (hc : psi.c = 1) : probsDM (pureDM psi) = probsKet psi := by
  unfold probsDM probsKet pureDM Mat.mul Mat.dagger
  simp only [hc, sumTo_one]
  apply List.map_congr_left
  intro i _
  simp [CQ.normSq]

theorem expectDM_add (A B rho : Mat) (h : B.c = A.c) (hr : B.r = A.r) :
    expectDM (Mat.add A B) rho = expectDM A rho + expectDM B rho := by
  simp only [expectDM, Mat.trace, Mat.mul, Mat.add, h, hr]
  rw [← sumTo_add]
  apply sumTo_congr; intro k _
  rw [← sumTo_add]
  apply sumTo_congr; intro j _
  ring

theorem expectDM_smul (z : CQ) (A rho : Mat) :
    expectDM (Mat.smul z A) rho = z * expectDM A rho := by
  simp only [expectDM, Mat.trace, Mat.mul, Mat.smul]
  rw [sumTo_mul_left]
  apply sumTo_congr; intro k _
  rw [sumTo_mul_left]
  apply sumTo_congr; intro j _
  ring

theorem kron_entry (A B : Mat) (i j k l : Nat) (hk : k < B.r) (hl : l < B.c) :
    (Mat.kron A B).f (i * B.r + k) (j * B.c + l) = A.f i j * B.f k l := by
  simp only [Mat.kron]
  rw [Nat.mul_comm i, Nat.mul_comm j, Nat.mul_add_div (Nat.zero_lt_of_lt hk),
    Nat.mul_add_div (Nat.zero_lt_of_lt hl), Nat.div_eq_of_lt hk, Nat.div_eq_of_lt hl, Nat.mul_add_mod,
    Nat.mul_add_mod, Nat.mod_eq_of_lt hk, Nat.mod_eq_of_lt hl, Nat.add_zero, Nat.add_zero]

def AllDim (d : Nat) (slots : List Mat) : Prop := ∀ A ∈ slots, A.r = d ∧ A.c = d

def Digits (d : Nat) (σ : List Nat) : Prop := ∀ a ∈ σ, a < d

theorem kronList_dim (d : Nat) (slots : List Mat) (h : AllDim d slots) :
    (Mat.kronList slots).r = d ^ slots.length ∧ (Mat.kronList slots).c = d ^ slots.length := by
  induction slots with
  | nil => simp [Mat.kronList, Mat.ident]
  | cons A rest ih =>
    obtain ⟨h1, h2⟩ := ih (fun B hB => h B (List.mem_cons_of_mem _ hB))
    obtain ⟨h3, h4⟩ := h A List.mem_cons_self
    simp only [Mat.kronList, Mat.kron, h1, h2, h3, h4, List.length_cons, Nat.pow_succ]
    constructor <;> ring

theorem index_lt (d : Nat) (σ : List Nat) (h : Digits d σ) : index d σ < d ^ σ.length := by
  induction σ with
  | nil => exact Nat.one_pos
  | cons a σ ih =>
    have ha : a < d := h a List.mem_cons_self
    have := ih (fun b hb => h b (List.mem_cons_of_mem _ hb))
    rw [index, List.length_cons, Nat.pow_succ]
    calc a * d ^ σ.length + index d σ < a * d ^ σ.length + d ^ σ.length := Nat.add_lt_add_left this _
      _ = (a + 1) * d ^ σ.length := (Nat.succ_mul ..).symm
      _ ≤ d * d ^ σ.length := Nat.mul_le_mul_right _ ha
      _ = d ^ σ.length * d := Nat.mul_comm ..

theorem kronList_entry (d : Nat) (slots : List Mat) (h : AllDim d slots) :
    ∀ (σ τ : List Nat), σ.length = slots.length → τ.length = slots.length →
      Digits d σ → Digits d τ →
      (Mat.kronList slots).f (index d σ) (index d τ) = prodEntry slots σ τ := by
  induction slots with
  | nil =>
    intro σ τ hs ht _ _
    rw [List.length_eq_zero_iff.mp hs, List.length_eq_zero_iff.mp ht]
    simp [Mat.kronList, Mat.ident, index, prodEntry]
  | cons A rest ih =>
    intro σ τ hs ht hds hdt
    match σ, τ, hs, ht with
    | a :: σ, b :: τ, hs, ht =>
      have hrest : AllDim d rest := fun B hB => h B (List.mem_cons_of_mem _ hB)
      obtain ⟨hr, hc⟩ := kronList_dim d rest hrest
      have hs' : σ.length = rest.length := Nat.succ.inj hs
      have ht' : τ.length = rest.length := Nat.succ.inj ht
      have hds' : Digits d σ := fun x hx => hds x (List.mem_cons_of_mem _ hx)
      have hdt' : Digits d τ := fun x hx => hdt x (List.mem_cons_of_mem _ hx)
      have l1 := index_lt d σ hds'
      have l2 := index_lt d τ hdt'
      rw [hs', ← hr] at l1
      rw [ht', ← hc] at l2
      have e := kron_entry A (Mat.kronList rest) a b _ _ l1 l2
      rw [hr, hc] at e
      rw [Mat.kronList, index, index, prodEntry, hs', ht', e, ih hrest σ τ hs' ht' hds' hdt']

theorem buildQuditOp_dim (d : Nat) (q : QuditOp) : (buildQuditOp d q).r = d ∧ (buildQuditOp d q).c = d := by
  induction q with
  | nil => simp [buildQuditOp, Mat.zero]
  | cons e rest ih =>
    obtain ⟨i, j, z⟩ := e
    simpa [buildQuditOp, Mat.add] using ih

theorem slotOps_dim (d n : Nat) (t : TensorOp) : AllDim d (slotOps d n t) ∧ (slotOps d n t).length = n := by
  let P (s : List Mat) : Prop := AllDim d s ∧ s.length = n
  have base : P (List.replicate n (Mat.ident d)) :=
    ⟨fun A hA => by obtain rfl := List.eq_of_mem_replicate hA; exact ⟨rfl, rfl⟩, List.length_replicate ..⟩
  -- one assignment `qobj_qudit_ops[ind] = build_qudit_op(q)`
  have step : ∀ q s ind, P s → P (if ind < s.length then s.set ind (buildQuditOp d q) else s) := by
    intro q s ind hs
    split
    · refine ⟨fun A hA => ?_, List.length_set.trans hs.2⟩
      rcases List.mem_or_eq_of_mem_set hA with hA | rfl
      · exact hs.1 A hA
      · exact buildQuditOp_dim d q
    · exact hs
  exact List.foldlRecOn (motive := P) t _ base fun s hs ⟨q, inds⟩ _ =>
    List.foldlRecOn (motive := P) inds _ hs fun s hs i _ => step q s i hs

/-- **`operator_from_repr`**: the operator built by `from_operator_repr` (Kronecker products of the
slot operators, summed with the coefficients) has the documented entries. -/
theorem fromRepr_entry (d n : Nat) (fo : FullOp) (σ τ : List Nat)
    (hs : σ.length = n) (ht : τ.length = n) (hds : Digits d σ) (hdt : Digits d τ) :
    (fromRepr d n fo).f (index d σ) (index d τ) = fromReprEntry d n fo σ τ := by
  induction fo with
  | nil => simp [fromRepr, fromReprEntry, Mat.zero]
  | cons term rest ih =>
    obtain ⟨z, t⟩ := term
    obtain ⟨hdim, hlen⟩ := slotOps_dim d n t
    simp only [fromRepr, fromReprEntry, Mat.add, Mat.smul]
    rw [ih, kronList_entry d _ hdim σ τ (by rw [hlen, hs]) (by rw [hlen, ht]) hds hdt]

/-! ### 8. basis-state enumeration, number operators, occupation -/

theorem mem_allStates {d n : Nat} {σ : List Nat} (h : σ ∈ allStates d n) : σ.length = n ∧ Digits d σ := by
  induction n generalizing σ with
  | zero => simp [allStates] at h; subst h; exact ⟨rfl, fun a ha => nomatch ha⟩
  | succ n ih =>
    simp only [allStates, List.mem_flatMap, List.mem_map, List.mem_range] at h
    obtain ⟨a, ha, τ, hτ, rfl⟩ := h
    exact ⟨congrArg (· + 1) (ih hτ).1, List.forall_mem_cons.mpr ⟨ha, (ih hτ).2⟩⟩

theorem range_flatMap_block (d m : Nat) :
    (List.range d).flatMap (fun a => (List.range m).map (a * m + ·)) = List.range (d * m) := by
  induction d with
  | zero => simp
  | succ d ih =>
    rw [List.range_succ, List.flatMap_append, ih]
    simp only [List.flatMap_cons, List.flatMap_nil, List.append_nil]
    rw [Nat.succ_mul, List.range_add]

theorem allStates_index (d n : Nat) : (allStates d n).map (index d) = List.range (d ^ n) := by
  induction n with
  | zero => simp [allStates, index]
  | succ n ih =>
    simp only [allStates, List.map_flatMap, List.map_map]
    have : ∀ a, List.map (index d ∘ fun x => a :: x) (allStates d n)
        = (List.range (d ^ n)).map (a * d ^ n + ·) := by
      intro a
      rw [← ih, List.map_map]
      apply List.map_congr_left
      intro σ hσ
      simp [index, (mem_allStates hσ).1]
    simp only [this]
    rw [range_flatMap_block, Nat.pow_succ, Nat.mul_comm]

theorem sumTo_states (d n : Nat) (g : Nat → CQ) :
    sumTo (d ^ n) g = ((allStates d n).map fun σ => g (index d σ)).sum := by
  rw [sumTo_eq_list, ← allStates_index, List.map_map]
  rfl

theorem numberQudit_entry (d one a b : Nat) :
    (buildQuditOp d [(one, one, 1)]).f a b = if a = one ∧ b = one then 1 else 0 := by
  simp only [buildQuditOp, Mat.add, Mat.smul, Mat.proj, Mat.zero, zero_add, one_mul]

theorem ident_f (d a b : Nat) : (Mat.ident d).f a b = if a = b then 1 else 0 := rfl

theorem slotOps_single (d n : Nat) (q : QuditOp) (S : List Nat) :
    slotOps d n [(q, S)] =
      (List.range n).map fun k => if k ∈ S then buildQuditOp d q else Mat.ident d := by
  have step : ∀ (S : List Nat) (f : Nat → Mat),
      S.foldl (fun s ind => if ind < s.length then s.set ind (buildQuditOp d q) else s)
          ((List.range n).map f)
        = (List.range n).map fun k => if k ∈ S then buildQuditOp d q else f k := by
    intro S
    induction S with
    | nil => intro f; simp
    | cons i S ih =>
      intro f
      have e : (if i < ((List.range n).map f).length then
            ((List.range n).map f).set i (buildQuditOp d q) else (List.range n).map f)
          = (List.range n).map fun k => if k = i then buildQuditOp d q else f k := by
        apply List.ext_getElem
        · split <;> simp
        · intro k _ h2
          have hk : k < n := by simpa using h2
          by_cases hi : i < n
          · simp [hi, List.getElem_set, eq_comm]
          · simp [hi, show k ≠ i by omega]
      rw [List.foldl_cons, e, ih]
      apply List.map_congr_left
      intro k _
      by_cases h2 : k ∈ S <;> simp [h2]
  simpa [slotOps] using step S fun _ => Mat.ident d

theorem numberSlot_entry (d one : Nat) (p : Prop) [Decidable p] (a b : Nat) :
    (if p then buildQuditOp d [(one, one, 1)] else Mat.ident d).f a b
      = if a = b ∧ (p → a = one) then 1 else 0 := by
  by_cases hp : p
  · by_cases hab : a = b
    · simp [hp, hab, numberQudit_entry]
    · have : ¬ (a = one ∧ b = one) := fun h => hab (h.1.trans h.2.symm)
      simp [hp, hab, numberQudit_entry, this]
  · simp [hp, ident_f]

theorem prodEntry_number (d one : Nat) :
    ∀ (n : Nat) (S : Nat → Prop) [DecidablePred S] (σ τ : List Nat), σ.length = n → τ.length = n →
    prodEntry ((List.range n).map fun k =>
        if S k then buildQuditOp d [(one, one, 1)] else Mat.ident d) σ τ
      = if σ = τ ∧ ∀ k, k < n → S k → σ.getD k d = one then 1 else 0 := by
  intro n
  induction n with
  | zero =>
    intro S _ σ τ hs ht
    rw [List.length_eq_zero_iff.mp hs, List.length_eq_zero_iff.mp ht, if_pos ⟨rfl, fun _ hk => nomatch hk⟩]
    rfl
  | succ n ih =>
    intro S _ σ τ hs ht
    match σ, τ, hs, ht with
    | a :: σ, b :: τ, hs, ht =>
      rw [List.range_succ_eq_map, List.map_cons, List.map_map, prodEntry, numberSlot_entry,
        Function.comp_def, ih (fun k => S (k + 1)) σ τ (Nat.succ.inj hs) (Nat.succ.inj ht)]
      simp only [ite_zero_mul_ite_zero, mul_one, List.cons.injEq, Nat.forall_lt_succ_left,
        List.getD_cons_zero, List.getD_cons_succ, and_and_and_comm]

theorem numberOp_entry (d n one : Nat) (S : List Nat) (hS : ∀ i ∈ S, i < n) (σ τ : List Nat)
    (hs : σ.length = n) (ht : τ.length = n) (hds : Digits d σ) (hdt : Digits d τ) :
    (numberOp d n one S).f (index d σ) (index d τ)
      = if σ = τ ∧ ∀ i ∈ S, σ.getD i d = one then 1 else 0 := by
  unfold numberOp
  rw [fromRepr_entry d n _ σ τ hs ht hds hdt]
  simp only [fromReprEntry, slotOps_single, prodEntry_number d one n (· ∈ S) σ τ hs ht,
    one_mul, add_zero]
  have : (∀ k, k < n → k ∈ S → σ.getD k d = one) ↔ ∀ i ∈ S, σ.getD i d = one :=
    ⟨fun h i hi => h i (hS i hi) hi, fun h k _ hk => h k hk⟩
  simp only [this]

theorem numberOp_dim (d n one : Nat) (S : List Nat) :
    (numberOp d n one S).r = d ^ n ∧ (numberOp d n one S).c = d ^ n := by
  obtain ⟨h1, h2⟩ := slotOps_dim d n [([(one, one, 1)], S)]
  simpa only [numberOp, fromRepr, Mat.add, Mat.smul, h2] using kronList_dim d _ h1

theorem allStates_nodup (d n : Nat) : (allStates d n).Nodup := by
  have h : ((allStates d n).map (index d)).Nodup := by
    rw [allStates_index]; exact List.nodup_range
  exact List.Nodup.of_map _ h

theorem sum_ite_eq_of_nodup {α} [DecidableEq α] (L : List α) (hL : L.Nodup) (σ : α) (hσ : σ ∈ L) (h : α → CQ) :
    (L.map fun τ => if σ = τ then h τ else 0).sum = h σ := by
  rw [List.sum_map_eq_nsmul_single σ _ (fun τ hne _ => if_neg (Ne.symm hne)),
    List.count_eq_one_of_mem hL hσ, one_nsmul, if_pos rfl]

theorem sum_map_ite_filter {α} (L : List α) (p : α → Bool) (g : α → CQ) :
    (L.map fun σ => if p σ then g σ else 0).sum = ((L.filter p).map g).sum := by
  simp [List.sum_map_ite]

/-- **Occupations and correlations are their definitions**: `Tr[ρ n_S] = Σ_σ ρ_σσ [σᵢ = one for
all i ∈ S]`, for every density matrix (indeed every matrix) `ρ`, every dimension, every number of
qudits and every set `S` of qudits. -/
theorem expectDM_numberOp (d n one : Nat) (S : List Nat) (hS : ∀ i ∈ S, i < n) (rho : Mat) :
    expectDM (numberOp d n one S) rho =
      (((allStates d n).filter fun σ => S.all fun i => σ.getD i d == one).map fun σ =>
        rho.f (index d σ) (index d σ)).sum := by
  obtain ⟨hr, hc⟩ := numberOp_dim d n one S
  simp only [expectDM, Mat.trace, Mat.mul, hr, hc]
  rw [sumTo_states, ← sum_map_ite_filter]
  congr 1
  apply List.map_congr_left
  intro σ hσ
  rw [sumTo_states]
  -- row `σ` of `n_S` has its only non-zero entry on the diagonal
  have e : ((allStates d n).map fun τ =>
        (numberOp d n one S).f (index d σ) (index d τ) * rho.f (index d τ) (index d σ))
      = (allStates d n).map fun τ =>
        if σ = τ then (if (S.all fun i => σ.getD i d == one) then rho.f (index d τ) (index d σ) else 0)
        else 0 := by
    apply List.map_congr_left
    intro τ hτ
    rw [numberOp_entry d n one S hS σ τ (mem_allStates hσ).1 (mem_allStates hτ).1
      (mem_allStates hσ).2 (mem_allStates hτ).2]
    simp only [ite_and, ite_mul, one_mul, zero_mul, List.all_eq_true, beq_iff_eq]
  rw [e, sum_ite_eq_of_nodup _ (allStates_nodup d n) σ hσ]

theorem re_sum {α} (L : List α) (g : α → CQ) : ((L.map g).sum).re = (L.map fun x => (g x).re).sum := by
  induction L with
  | nil => simp
  | cons x L ih => simp [ih]

theorem im_sum {α} (L : List α) (g : α → CQ) : ((L.map g).sum).im = (L.map fun x => (g x).im).sum := by
  induction L with
  | nil => simp
  | cons x L ih => simp [ih]

theorem lookup_probsDM (rho : Mat) (k : Nat) (hk : k < rho.r) : lookup (probsDM rho) k = (rho.f k k).re := by
  unfold lookup probsDM
  simp [List.getD_eq_getElem?_getD, hk]

theorem expectDM_numberOp_re (d n one : Nat) (S : List Nat) (hS : ∀ i ∈ S, i < n) (rho : Mat)
    (hr : rho.r = d ^ n) :
    (expectDM (numberOp d n one S) rho).re =
      (((allStates d n).filter fun σ => S.all fun i => σ.getD i d == one).map fun σ =>
        lookup (probsDM rho) (index d σ)).sum := by
  rw [expectDM_numberOp d n one S hS rho, re_sum]
  congr 1
  apply List.map_congr_left
  intro σ hσ
  have hσ' := (List.mem_filter.mp hσ).1
  have hlt := index_lt d σ (mem_allStates hσ').2
  rw [(mem_allStates hσ').1, ← hr] at hlt
  rw [lookup_probsDM rho _ hlt]

theorem expectDM_numberOp_ofRat (d n one : Nat) (S : List Nat) (hS : ∀ i ∈ S, i < n) (rho : Mat)
    (hr : rho.r = d ^ n) (hreal : ∀ σ ∈ allStates d n, (rho.f (index d σ) (index d σ)).im = 0) :
    expectDM (numberOp d n one S) rho = CQ.ofRat
      (((allStates d n).filter fun σ => S.all fun i => σ.getD i d == one).map fun σ =>
        lookup (probsDM rho) (index d σ)).sum := by
  apply CQ.ext'
  · exact expectDM_numberOp_re d n one S hS rho hr
  · rw [expectDM_numberOp d n one S hS rho, im_sum]
    exact List.sum_eq_zero fun x hx => by
      obtain ⟨σ, hσ, rfl⟩ := List.mem_map.mp hx
      exact hreal σ (List.mem_filter.mp hσ).1

/-! ### 9. energy second moment (after the repair of F25) -/

theorem sumTo_delta (n k : Nat) (hk : k < n) (g : Nat → CQ) :
    sumTo n (fun j => (if k = j then (1 : CQ) else 0) * g j) = g k := by
  simp only [sumTo_eq_list, ite_mul, one_mul, zero_mul]
  exact sum_ite_eq_of_nodup _ List.nodup_range k (List.mem_range.mpr hk) g

/-- **The second moment stored by the tree is its definition** `Tr[ρ H²]`, for every state
(pure or mixed) and every Hermitian `H`: `identity.expect(H ρ H†) = Tr[H ρ H] = Tr[ρ H H]`. -/
theorem secondMomentCode_eq_def (H rho : Mat) (n : Nat) (hHr : H.r = n) (hHc : H.c = n)
    (hRc : rho.c = n) (herm : IsHermitian H n) :
    secondMomentCodeDM H rho = secondMomentDM H rho := by
  simp only [secondMomentCodeDM, secondMomentDM, expectDM, Mat.trace, Mat.mul, Mat.ident, applyDM,
    Mat.dagger, hHr, hHc, hRc]
  -- left: Σ_k Σ_j δ_kj Σ_b (Σ_a H j a ρ a b) conj(H k b) ;  right: Σ_k Σ_j (Σ_a H k a H a j) ρ j k
  rw [sumTo_congr n _ _ fun k hk => sumTo_delta n k hk _]
  simp only [sumTo_mul_right]
  -- left: Σ_k Σ_b Σ_a H k a ρ a b conj(H k b) ;
  -- right, with the names (b, a, k) for (k, j, a): Σ_b Σ_a Σ_k H b k H k a ρ a b
  rw [sumTo_swap n n (fun k b => sumTo n fun a => H.f k a * rho.f a b * (H.f k b).conj)]
  apply sumTo_congr
  intro b hb
  rw [sumTo_swap n n (fun k a => H.f k a * rho.f a b * (H.f k b).conj)]
  apply sumTo_congr
  intro a _
  apply sumTo_congr
  intro k hk
  rw [herm b k hb hk]
  ring

/-! ### 10. state-preparation errors -/

theorem decode_encode (bad : List Bool) : decodeConfig (encodeConfig bad) = bad := by
  induction bad with
  | nil => rfl
  | cons b bs ih =>
    simp only [decodeConfig, encodeConfig, List.map_cons] at ih ⊢
    rw [ih]; cases b <;> simp

theorem configWeight_of_mem (eta : Rat) {n : Nat} {c : List Bool} (hc : c ∈ allBits n) :
    configWeight eta c = flipKernel eta 0 (List.replicate n false) c := by
  simp [configWeight, mem_allBits_length n c hc]

theorem configWeight_sum_one (eta : Rat) (n : Nat) :
    ((allBits n).map (configWeight eta)).sum = 1 := by
  rw [List.map_congr_left fun c hc => configWeight_of_mem eta hc]
  simpa using flipKernel_sum_one eta 0 (List.replicate n false)

theorem configWeight_marginal (eta : Rat) (n i : Nat) (hi : i < n) :
    (((allBits n).filter fun c => c.getD i false == true).map (configWeight eta)).sum = eta := by
  rw [List.map_congr_left fun c hc => configWeight_of_mem eta (List.mem_filter.mp hc).1]
  have := flipKernel_marginal eta 0 true (List.replicate n false) i (by simpa using hi)
  simp only [List.length_replicate] at this
  rw [this]
  simp [List.getD_eq_getElem?_getD, hi, flip1]

/-! ### 11. ket-ket overlap -/

theorem sumTo_conj (n : Nat) (g : Nat → CQ) : (sumTo n g).conj = sumTo n (fun k => (g k).conj) := by
  induction n with
  | zero => simp [sumTo, CQ.conj_zero]
  | succ n ih => simp only [sumTo, CQ.conj_add, ih]

theorem innerKet_conj (A B : Mat) (h : A.r = B.r) : innerKet B A = (innerKet A B).conj := by
  unfold innerKet Mat.mul Mat.dagger
  simp only [h, sumTo_conj]
  apply sumTo_congr
  intro k _
  rw [CQ.conj_mul, CQ.conj_conj, mul_comm]

theorem expectKet_pureDM (A B : Mat) (hB : B.c = 1) :
    expectKet (pureDM B) A = innerKet A B * innerKet B A := by
  unfold expectKet innerKet pureDM Mat.mul Mat.dagger
  simp only [hB, sumTo_one]
  rw [sumTo_mul_right]
  apply sumTo_congr
  intro i _
  have : (sumTo B.r fun k => B.f i 0 * (B.f k 0).conj * A.f k 0)
      = B.f i 0 * sumTo B.r fun k => (B.f k 0).conj * A.f k 0 := by
    rw [sumTo_mul_left]; apply sumTo_congr; intro k _; ring
  rw [this]; ring

end Pulser.Measure
