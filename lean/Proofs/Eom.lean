/-
  Proofs.Eom — the `argmin` choice of the EOM off-detuning.
-/
import PulserModel.Sequence
import Mathlib.Algebra.Order.Field.Rat
namespace Pulser

/-- `|o − x|`, spelled as `closestIdx` computes it. -/
def absd (o x : Rat) : Rat := if o - x < 0 then x - o else o - x

/-- Entry `k + 1` of `o :: rest` is entry `k` of `rest` (by definition): a bound on the distances of
all entries of `o :: rest` is one for `o` and one for the entries of `rest`. -/
theorem absd_cons_le {x a o : Rat} {rest : List Rat} (h0 : a ≤ absd o x)
    (h : ∀ k (hk : k < rest.length), a ≤ absd rest[k] x) :
    ∀ k (hk : k < (o :: rest).length), a ≤ absd (o :: rest)[k] x := by
  intro k hk
  cases k with
  | zero => exact h0
  | succ j => exact h j (Nat.lt_of_succ_lt_succ hk)

/-- The same for a strict bound on the entries before a position. -/
theorem absd_cons_lt {x a o : Rat} {rest : List Rat} {n : Nat} (h0 : a < absd o x)
    (h : ∀ k (hk : k < rest.length), k < n → a < absd rest[k] x) :
    ∀ k (hk : k < (o :: rest).length), k < n + 1 → a < absd (o :: rest)[k] x := by
  intro k hk hl
  cases k with
  | zero => exact h0
  | succ j => exact h j (Nat.lt_of_succ_lt_succ hk) (Nat.lt_of_succ_lt_succ hl)

/-- The scan of `closestIdx` from position `i` with the best index and distance so far: it keeps
them when no entry of `l` is strictly closer, and otherwise returns the first entry of `l` that is
closest to `x` (and closer than the best so far). -/
theorem go_spec (x : Rat) (l : List Rat) :
    ∀ (best : Nat) (bestD : Rat) (i : Nat),
      let r := closestIdx.go x best bestD i l
      (r = best ∧ ∀ k (hk : k < l.length), bestD ≤ absd l[k] x) ∨
      (∃ k, ∃ hk : k < l.length, r = i + k ∧ absd l[k] x < bestD ∧
        (∀ k' (hk' : k' < l.length), absd l[k] x ≤ absd l[k'] x) ∧
        (∀ k' (hk' : k' < l.length), k' < k → absd l[k] x < absd l[k'] x)) := by
  induction l with
  | nil => intro best bestD i; exact .inl ⟨rfl, fun k hk => absurd hk (Nat.not_lt_zero _)⟩
  | cons o rest ih =>
    intro best bestD i
    have hstep : closestIdx.go x best bestD i (o :: rest) =
        if absd o x < bestD then closestIdx.go x i (absd o x) (i + 1) rest
        else closestIdx.go x best bestD (i + 1) rest := rfl
    rw [hstep]
    by_cases hlt : absd o x < bestD
    · rw [if_pos hlt]
      -- `o` is the best so far: either it stays so (index `0`) or a later entry beats it
      rcases ih i (absd o x) (i + 1) with ⟨h1, h2⟩ | ⟨k, hk, h1, h2, h3, h4⟩
      · exact .inr ⟨0, Nat.zero_lt_succ _, h1, hlt, absd_cons_le (le_refl _) h2,
          fun _ _ h0 => absurd h0 (Nat.not_lt_zero _)⟩
      · exact .inr ⟨k + 1, Nat.succ_lt_succ hk, h1.trans (Nat.add_right_comm i 1 k), lt_trans h2 hlt,
          absd_cons_le (le_of_lt h2) h3, absd_cons_lt h2 h4⟩
    · rw [if_neg hlt]
      have hge : bestD ≤ absd o x := not_lt.mp hlt
      rcases ih best bestD (i + 1) with ⟨h1, h2⟩ | ⟨k, hk, h1, h2, h3, h4⟩
      · exact .inl ⟨h1, absd_cons_le hge h2⟩
      · exact .inr ⟨k + 1, Nat.succ_lt_succ hk, h1.trans (Nat.add_right_comm i 1 k), h2,
          absd_cons_le (le_of_lt (lt_of_lt_of_le h2 hge)) h3, absd_cons_lt (lt_of_lt_of_le h2 hge) h4⟩

/-- **The off-detuning is the allowed value closest to the requested optimum** (the first
one on ties, as `argmin`): `closestIdx` returns a valid index whose distance to the
optimum is minimal, and strictly smaller than that of every earlier option. -/
theorem closest_option (opts : List Rat) (x : Rat) (i : Nat) (h : closestIdx opts x = some i) :
    ∃ hi : i < opts.length,
      (∀ j (hj : j < opts.length), absd opts[i] x ≤ absd opts[j] x) ∧
      (∀ j (hj : j < opts.length), j < i → absd opts[i] x < absd opts[j] x) := by
  cases opts with
  | nil => cases h
  | cons o rest =>
    -- the head is an entry like the others: start the scan one step earlier, from above its distance
    have hgo : closestIdx.go x 0 (absd o x + 1) 0 (o :: rest) = closestIdx.go x 0 (absd o x) 1 rest :=
      if_pos (lt_add_one (absd o x))
    injection h with h
    rcases go_spec x (o :: rest) 0 (absd o x + 1) 0 with ⟨_, h2⟩ | ⟨k, hk, h1, _, h3, h4⟩
    · exact absurd (h2 0 (Nat.zero_lt_succ _)) (not_le.mpr (lt_add_one _))
    · obtain rfl : i = k := by rw [← h, ← Nat.zero_add k, ← h1]; exact hgo.symm
      exact ⟨hk, h3, h4⟩

theorem absd_nonneg (o x : Rat) : 0 ≤ absd o x := by
  unfold absd
  split
  · rename_i h; exact sub_nonneg.mpr (le_of_lt (sub_neg.mp h))
  · rename_i h; exact not_lt.mp h

theorem absd_self (x : Rat) : absd x x = 0 := by unfold absd; simp

theorem absd_eq_zero {o x : Rat} (h : absd o x = 0) : o = x := by
  unfold absd at h
  split at h
  · exact (sub_eq_zero.mp h).symm
  · exact sub_eq_zero.mp h

/-- Asking for an allowed value returns (an index of) that value: the stored
`optimal_detuning_off` of a replayed `enable_eom_mode` picks the same off-detuning. -/
theorem closestIdx_of_mem (opts : List Rat) (i : Nat) (hi : i < opts.length) :
    ∃ j, closestIdx opts opts[i] = some j ∧ ∃ hj : j < opts.length, opts[j] = opts[i] := by
  cases hc : closestIdx opts opts[i] with
  | none =>
    cases opts with
    | nil => exact absurd hi (Nat.not_lt_zero _)
    | cons o r => cases hc
  | some j =>
    obtain ⟨hj, h1, _⟩ := closest_option opts opts[i] j hc
    refine ⟨j, rfl, hj, ?_⟩
    have := h1 i hi
    rw [absd_self] at this
    exact absd_eq_zero (le_antisymm this (absd_nonneg _ _))

end Pulser
