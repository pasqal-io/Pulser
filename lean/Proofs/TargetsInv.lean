/-
  Proofs.TargetsInv — every instruction of every channel of a reachable sequence acts on atoms of
  the register.  Consequence (Properties/C09.lean, with `BasesOk` of Proofs/RefsInv.lean: the phase references
  of every declared channel's basis exist): the post-phase-shift of an `add` cannot fail on a
  reachable state, so a refused call leaves a reachable sequence untouched whatever the error.

  Channel level: every primitive of the scheduler appends instructions that copy the target list of
  an earlier instruction (`TSub`), except `add_target`, which brings the validated list `qs`.
-/
import Proofs.Pass
namespace Pulser

/-- The target lists of a channel's instructions. -/
def tgts (c : ChanState) : List (List Nat) := c.slots.map (·.targets)

/-- All targets are atoms of a register of `nQ` atoms. -/
def TgtOk (nQ : Nat) (c : ChanState) : Prop := ∀ t ∈ tgts c, ∀ q ∈ t, q < nQ

/-- Every instruction of `c'` acts on a target list an instruction of `c` already has, or on `qs`. -/
def TSub (qs : List Nat) (c c' : ChanState) : Prop := ∀ t ∈ tgts c', t ∈ tgts c ∨ t = qs

theorem TSub.rfl' (qs : List Nat) (c : ChanState) : TSub qs c c := fun _ h => .inl h

theorem TSub.trans {qs : List Nat} {a b c : ChanState} (h1 : TSub qs a b) (h2 : TSub qs b c) :
    TSub qs a c := by
  intro t ht
  rcases h2 t ht with h | h
  · exact h1 t h
  · exact .inr h

theorem TSub.ok {qs : List Nat} {nQ : Nat} {c c' : ChanState} (h : TSub qs c c')
    (hq : ∀ q ∈ qs, q < nQ) (hc : TgtOk nQ c) : TgtOk nQ c' := by
  intro t ht q hqt
  rcases h t ht with h1 | h1
  · exact hc t h1 q hqt
  · subst h1; exact hq q hqt

theorem last_tgts {c : ChanState} {l : Slot} (h : c.last = .ok l) : l.targets ∈ tgts c := by
  obtain ⟨rest, hr⟩ := last_ok h
  exact List.mem_map_of_mem (List.mem_reverse.mp (hr ▸ List.mem_cons_self))

theorem TSub_snoc {qs : List Nat} {c c1 c' : ChanState} {sl : Slot} (h1 : TSub qs c c1)
    (hs : c'.slots = c1.slots ++ [sl]) (ht : sl.targets ∈ tgts c ∨ sl.targets = qs) : TSub qs c c' := by
  intro t h
  unfold tgts at h
  rw [hs, List.map_append] at h
  rcases List.mem_append.mp h with h | h
  · exact h1 t h
  · simp at h; subst h; exact ht

theorem TSub_slots_eq {qs : List Nat} {c c' : ChanState} (hs : c'.slots = c.slots) : TSub qs c c' := by
  intro t h
  unfold tgts at h ⊢
  rw [hs] at h
  exact .inl h

theorem addDelay_tsub {qs : List Nat} {ms : Option Nat} {c c' : ChanState} {d : Nat}
    (h : addDelay ms c d = .ok c') : TSub qs c c' := by
  obtain ⟨last, _, _, hl, _, _, rfl, _⟩ := addDelay_shape h
  exact TSub_snoc (TSub.rfl' qs c) rfl (.inl (last_tgts hl : last.targets ∈ tgts c))

theorem addPulse_tsub {qs : List Nat} {ms : Option Nat} {c c' : ChanState} {o : List ChanState}
    {p : PulseRec} {b : List Int} {pr : Protocol} {d : Option Drift}
    (h : addPulse ms c o p b pr d = .ok c') : TSub qs c c' := by
  obtain ⟨last, slot, c1, hl, hm, hc1, rfl⟩ := addPulse_cases h
  obtain ⟨_, _, _, _, _, rfl⟩ := makeNextPulseSlot_shape hl hm
  have h1 : TSub qs c c1 := by
    rcases hc1 with ⟨rfl, _⟩ | ⟨_, had⟩
    · exact TSub.rfl' qs _
    · exact addDelay_tsub had
  exact TSub_snoc h1 rfl (.inl (last_tgts hl : last.targets ∈ tgts c))

theorem Wait.tsub {qs : List Nat} {ms : Option Nat} {c c' : ChanState} (h : Wait ms c c') :
    TSub qs c c' := by
  rcases h with rfl | ⟨d, h⟩ | ⟨_, _, _, _, _, _, h⟩
  · exact TSub.rfl' qs _
  · exact addDelay_tsub h
  · exact addPulse_tsub h

theorem addTarget_tsub {qs : List Nat} {ms : Option Nat} (c : ChanState) :
    TSub qs c (addTarget ms c qs).c := by
  rcases addTarget_cases ms c qs with h | ⟨_, _, h⟩ | ⟨c1, hw, h | h⟩
  · rw [h]; exact TSub.rfl' qs c
  · rw [h]; exact TSub_snoc (TSub.rfl' qs c) rfl (.inr rfl)
  · rw [h]; exact (waitForFall_wait hw).tsub
  · obtain ⟨_, _, _, _, _, h⟩ := addTargetTail_shape h
    rw [h]; exact TSub_snoc (waitForFall_wait hw).tsub rfl (.inr rfl)

theorem enableEom_tsub {qs : List Nat} {ms : Option Nat} (c : ChanState) (amp detOn detOff : Rat)
    (sb sw : Bool) : TSub qs c (enableEom ms c amp detOn detOff sb sw).c := by
  obtain ⟨c1, c2, w1, w2, h⟩ := enableEom_shape ms c amp detOn detOff sb sw
  rcases h with ⟨h, _⟩ | ⟨_, _, h⟩ <;> rw [h]
  · exact w1.tsub.trans w2.tsub
  · exact (w1.tsub.trans w2.tsub).trans (TSub_slots_eq rfl)

theorem disableEom_tsub {qs : List Nat} {ms : Option Nat} (c : ChanState) (sb : Bool) :
    TSub qs c (disableEom ms c sb).c := by
  rcases disableEom_shape ms c sb with ⟨h, _⟩ | ⟨last, _, w⟩
  · rw [h]; exact TSub.rfl' qs c
  · exact (TSub_slots_eq (c' := { c with eom := closeLastBlock c.eom last.tf }) rfl).trans w.tsub

/-! ### Sequence level -/

/-- The relation of the pass: targets stay inside the register. -/
def XT (nQ : Nat) : CRel where
  R := fun c c' => TgtOk nQ c → TgtOk nQ c'
  N := TgtOk nQ
  refl := fun _ h => h
  trans := fun h1 h2 h => h2 (h1 h)
  step := fun hn hr => hr hn

variable {nQ : Nat}

/-- any list of atoms works as the `qs` of a primitive that only copies target lists -/
theorem XT_copy {c c' : ChanState} (h : TSub [] c c') : (XT nQ).R c c' :=
  h.ok nofun

theorem freshChan_tg {name : ChName} {chId : Nat} {cfg : ChanCfg} {w : Bool} {a b : Rat} (n : Nat) :
    TgtOk n (SeqState.freshChan name chId cfg (List.range n) w a b) := by
  cases w with
  | false => exact fun t ht => nomatch ht
  | true =>
    intro t ht q hq
    cases List.mem_singleton.mp ht
    exact List.mem_range.mp hq

/-- The targets pass: `add_target` brings the validated atoms, every other operation copies the
targets of an earlier instruction. -/
theorem passT (dev : Device) (nQ : Nat) : Pass (XT nQ) dev nQ where
  chan h _ := by
    cases h with
    | target qs _ hq => exact (addTarget_tsub _).ok hq
    | wait h => exact XT_copy (waitForFall_wait h).tsub
    | delay h => exact XT_copy (addDelay_tsub h)
    | pulse _ ha => exact XT_copy (addPulse_tsub ha)
    | enable => exact XT_copy (enableEom_tsub _ _ _ _ _ _)
    | disable => exact XT_copy (disableEom_tsub _ _)
  oracle _ _ := XT_copy (TSub_slots_eq rfl)

theorem freshT {dev : Device} (nQ : Nat) (hd : DevOk dev) : Fresh (XT nQ) dev nQ :=
  ⟨hd, fun _ _ _ _ _ _ => freshChan_tg nQ⟩

/-- All targets stay inside the register along whole histories. -/
theorem runEv_TG {s : SeqState} (hd : DevOk s.dev) (hi : SeqInv s) (hq : s.nQ = nQ)
    (hl : ∀ c ∈ s.chans, TgtOk nQ c) (evs : List Ev) : ∀ c ∈ (runEv s evs).chans, TgtOk nQ c := by
  subst hq
  exact ((passT _ _).steps (runEv_moves s evs) (fun _ => freshT _ hd) hi).keeps hl

theorem runEv_nQ {s : SeqState} (hd : DevOk s.dev) (hi : SeqInv s) (evs : List Ev) :
    (runEv s evs).nQ = s.nQ :=
  (runEv_SG hd hi evs).2.2.1

end Pulser
