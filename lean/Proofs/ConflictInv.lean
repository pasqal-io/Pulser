/-
  Proofs.ConflictInv — every scheduler primitive keeps the 'last pulse clear' invariant (`LPC`,
  see Proofs/Conflict.lean) and the retarget rule (`RT`): a target instruction is appended only
  after `wait_for_fall`, outside EOM mode, and every other step appends pulses and delays only.
  The second part lifts both to every API call and every history, failing calls and oracle answers
  included (the pass `passK`).

  Oracle hypothesis (A1, standard mode): `fallStd ≤ 2·rise_time` for every pulse of the final
  state — this is what makes the early exit of `get_duration(include_fall_time=True)` sound.
-/
import Proofs.Conflict
import Proofs.Pass
namespace Pulser

/-- A1 for the pulses of a channel, standard mode. -/
def FallsOkC (c : ChanState) : Prop :=
  ∀ s ∈ c.slots, ∀ p, s.kind = .pulse p → p.fallStd ≤ 2 * c.cfg.rise

def LPCc (c : ChanState) : Prop := LPC c.slots.reverse

theorem FallsOkC_of_Ext {c c' : ChanState} (h : Ext c c') (hf : FallsOkC c') : FallsOkC c := by
  intro s hs p hp
  have := hf s (h.2.2.1.subset hs) p hp
  rw [h.1] at this; exact this

/-- End of the most recent target instruction on a reversed instruction list (`last_target()`). -/
def lastTargetOf (l : List Slot) : Int :=
  match l.find? Slot.isTarget with
  | some s => s.tf
  | none => 0

/-- Retarget rule: every target instruction but the initial one lasts at least
`fixed_retarget_t` and ends at least `min_retarget_interval` after the end of the target
instruction before it. -/
def RT (cfg : ChanCfg) : List Slot → Prop
  | [] => True
  | s :: rest =>
    (rest ≠ [] → s.isTarget = true →
      (cfg.fixedRetarget : Int) ≤ s.tf - s.ti ∧ (cfg.minRetarget : Int) ≤ s.tf - lastTargetOf rest) ∧
    RT cfg rest

def RTc (c : ChanState) : Prop := RT c.cfg c.slots.reverse

/-- `c'` extends `c` and keeps `LPC` (given A1 on the final instruction list) and the retarget rule. -/
def KG (c c' : ChanState) : Prop :=
  Ext c c' ∧ (FallsOkC c' → LPCc c → LPCc c') ∧ (RTc c → RTc c')

theorem KG.rfl' (c : ChanState) : KG c c := ⟨Ext.refl c, fun _ h => h, fun h => h⟩

theorem KG.trans {a b c : ChanState} (h1 : KG a b) (h2 : KG b c) : KG a c :=
  ⟨h1.1.trans h2.1, fun hf hl => h2.2.1 hf (h1.2.1 (FallsOkC_of_Ext h2.1 hf) hl),
   fun h => h2.2.2 (h1.2.2 h)⟩

theorem LPCc_snoc {c : ChanState} {x : Slot} (h : LPCc c)
    (hx : x.isTarget = true → ∀ q pq, firstPulse c.slots.reverse = some (q, pq) →
      q.tf + (pq.fallStd : Nat) ≤ x.ti) : LPCc (c.snoc x) := by
  unfold LPCc
  rw [show (c.snoc x).slots.reverse = x :: c.slots.reverse from List.reverse_append]
  exact ⟨hx, h⟩

theorem RTc_snoc {c : ChanState} {x : Slot} (h : RTc c)
    (hx : c.slots.reverse ≠ [] → x.isTarget = true →
      (c.cfg.fixedRetarget : Int) ≤ x.tf - x.ti ∧ (c.cfg.minRetarget : Int) ≤ x.tf - c.lastTarget) :
    RTc (c.snoc x) := by
  unfold RTc
  rw [show (c.snoc x).slots.reverse = x :: c.slots.reverse from List.reverse_append]
  exact ⟨hx, h⟩

/-- What every non-target instruction keeps (on the reversed list) is kept by appending
non-target instructions: so `LPC` and the retarget rule, which constrain target instructions only. -/
theorem append_nt {P : List Slot → Prop} (hP : ∀ x l, x.isTarget = false → P l → P (x :: l))
    (new : List Slot) : ∀ (l : List Slot), P l.reverse → (∀ s ∈ new, s.isTarget = false) →
      P (l ++ new).reverse := by
  induction new with
  | nil => intro l h _; rwa [List.append_nil]
  | cons x rest ih =>
    intro l h hn
    rw [List.append_cons]
    apply ih _ _ (fun s hs => hn s (List.mem_cons_of_mem _ hs))
    rw [List.reverse_append]
    exact hP x _ (hn x List.mem_cons_self) h

/-- `c'` is `c` with non-target instructions appended (nothing else changed that `Ext` tracks). -/
def NT (c c' : ChanState) : Prop :=
  Ext c c' ∧ ∃ new, c'.slots = c.slots ++ new ∧ ∀ s ∈ new, s.isTarget = false

theorem NT.rfl' (c : ChanState) : NT c c := ⟨Ext.refl c, [], by simp, by simp⟩

theorem NT.trans {a b c : ChanState} (h1 : NT a b) (h2 : NT b c) : NT a c := by
  obtain ⟨e1, n1, s1, t1⟩ := h1
  obtain ⟨e2, n2, s2, t2⟩ := h2
  refine ⟨e1.trans e2, n1 ++ n2, by rw [s2, s1, List.append_assoc], ?_⟩
  intro s hs
  rcases List.mem_append.mp hs with h | h
  · exact t1 s h
  · exact t2 s h

theorem NT.kg {c c' : ChanState} (h : NT c c') : KG c c' := by
  obtain ⟨e, new, hs, ht⟩ := h
  refine ⟨e, fun _ hl => ?_, fun hr => ?_⟩
  · unfold LPCc at *
    rw [hs]; exact append_nt (fun x l hx h => ⟨fun t => (by rw [hx] at t; cases t), h⟩) _ _ hl ht
  · unfold RTc at *
    rw [hs, e.1]; exact append_nt (fun x l hx h => ⟨fun _ t => (by rw [hx] at t; cases t), h⟩) _ _ hr ht

theorem NT_snoc (c : ChanState) (x : Slot) (hx : x.isTarget = false) : NT c (c.snoc x) :=
  ⟨Ext_snoc c x, [x], rfl, by simpa using hx⟩

theorem addDelay_nt {ms : Option Nat} {c c' : ChanState} {d : Nat} (hc : 0 < c.cfg.clock)
    (h : addDelay ms c d = .ok c') :
    ∃ (last x : Slot), c.last = .ok last ∧ c'.slots = c.slots ++ [x] ∧ x.isTarget = false ∧
      x.ti = last.tf ∧ (d : Int) ≤ x.tf - last.tf ∧ (c.inEomMode = false → x.kind = .delay) ∧
      c' = { c with slots := c.slots ++ [x] } := by
  obtain ⟨last, d', k, hl, hv, _, rfl, hk⟩ := addDelay_shape h
  have hd := (validateDuration_ok hc hv).2.2.1
  refine ⟨last, _, hl, rfl, ?_, rfl, le_span hd _, fun hne => ?_, rfl⟩
  · rcases hk with ⟨rfl, _⟩ | ⟨_, _, _, _, _, _, rfl⟩ <;> rfl
  · rcases hk with ⟨rfl, _⟩ | ⟨b, _, hb, ho, _⟩
    · rfl
    · exact absurd ho (inEomMode_false hne hb)

/-- `get_duration(include_fall_time=True)` is at least the end, fall time included, of the most
recent pulse: the early exit on an idle instruction older than `2·rise_time` skips nothing (A1). -/
theorem durFallAux_ge (r2 : Nat) (inEom : Bool) :
    ∀ (l : List Slot) (temp : Int), DescTf l → (∀ s ∈ l, s.tf ≤ temp) →
      (∀ s ∈ l, ∀ p, s.kind = .pulse p → p.fall inEom ≤ r2) →
      ∀ q pq, firstPulse l = some (q, pq) →
        q.tf + (pq.fall inEom : Nat) ≤ ChanState.durFallAux r2 inEom temp l ∧
        temp ≤ ChanState.durFallAux r2 inEom temp l := by
  intro l
  induction l with
  | nil => intro temp _ _ _ q pq h; cases h
  | cons op rest ih =>
    intro temp hd hle hA q pq hq
    unfold ChanState.durFallAux
    unfold firstPulse at hq
    cases hk : op.kind with
    | pulse p =>
      simp only [hk] at hq ⊢
      injection hq with hq; injection hq with h1 h2; subst h1 h2
      exact ⟨Int.le_max_right _ _, Int.le_max_left _ _⟩
    | _ =>
      simp only [hk] at hq ⊢
      by_cases hb : temp - op.tf ≥ (r2 : Int)
      · rw [if_pos hb]
        have hm := firstPulse_mem hq
        exact ⟨Int.le_trans (Int.add_le_add (DescTf_le hd q hm.1)
          (Int.ofNat_le.mpr (hA q (List.mem_cons_of_mem _ hm.1) pq hm.2))) (Int.add_le_of_le_sub_left hb),
          Int.le_refl _⟩
      · rw [if_neg hb]
        exact ih temp (DescTf_tail hd) (fun s hs => hle s (List.mem_cons_of_mem _ hs))
          (fun s hs => hA s (List.mem_cons_of_mem _ hs)) q pq hq

theorem modeRise_std {c : ChanState} (h : c.inEomMode = false) : c.modeRise = c.cfg.rise := by
  unfold ChanState.modeRise; rw [h]; rfl

theorem getDuration_true_ge {ms : Option Nat} {c : ChanState} (hi : ChanInv ms c)
    (hne : c.inEomMode = false) (hf : FallsOkC c) {q : Slot} {pq : PulseRec}
    (hq : firstPulse c.slots.reverse = some (q, pq)) :
    q.tf + (pq.fallStd : Nat) ≤ c.getDuration true ∧ c.getDuration false ≤ c.getDuration true := by
  unfold ChanState.getDuration
  cases hr : c.slots.reverse with
  | nil => rw [hr] at hq; cases hq
  | cons op rest =>
    simp only [Bool.not_true, Bool.false_eq_true, if_false, Bool.not_false, if_true]
    have hinv := hi.2; rw [hr] at hinv
    have hd := InvR_DescTf hinv
    rw [hr] at hq
    have hA : ∀ s ∈ op :: rest, ∀ p, s.kind = .pulse p → p.fall c.inEomMode ≤ 2 * c.modeRise := by
      intro s hs p hp
      rw [modeRise_std hne, hne]
      exact hf s (List.mem_reverse.mp (hr ▸ hs)) p hp
    have := durFallAux_ge (2 * c.modeRise) c.inEomMode (op :: rest) op.tf hd (DescTf_le_head hd) hA q pq hq
    rw [hne] at this ⊢
    exact this

/-- `wait_for_fall` outside EOM mode: only plain delays are appended, and the channel then ends
at or after the former duration-with-fall-time. -/
theorem waitForFall_nt {ms : Option Nat} {c c' : ChanState} (hi : ChanInv ms c)
    (h : waitForFall ms c = .ok c') :
    NT c c' ∧ c'.eom = c.eom ∧
      (c.inEomMode = false → firstPulse c'.slots.reverse = firstPulse c.slots.reverse ∧
        c.getDuration true ≤ c'.getDuration false) := by
  rcases waitForFall_cases h with ⟨rfl, hle⟩ | ⟨d, hfall, ha, h⟩
  · exact ⟨NT.rfl' c', rfl, fun _ => ⟨rfl, hle⟩⟩
  · have had := adjustDuration_ok hi.1 ha
    obtain ⟨last, x, hl, hs, hx, hti, hdx, hkind, rfl⟩ := addDelay_nt hi.1 h
    refine ⟨NT_snoc c x hx, rfl, fun hne => ⟨?_, ?_⟩⟩
    · show firstPulse (c.slots ++ [x]).reverse = _
      rw [List.reverse_append]
      show firstPulse (x :: c.slots.reverse) = _
      rw [firstPulse]; simp [hkind hne]
    · rw [getDuration_false_snoc]
      have h2 := Int.le_trans (Int.toNat_le.mp had.2.1) hdx
      rw [getDuration_false_last hl] at h2
      exact Int.le_of_sub_le_sub_right h2

theorem lift_kg {c : ChanState} {e : Except Err ChanState} (h : ∀ c', e = .ok c' → KG c c') :
    KG c (CRes.lift c e).c :=
  CRes.lift_rel (KG.rfl' c) h

theorem lift_nt {c : ChanState} {e : Except Err ChanState} (h : ∀ c', e = .ok c' → NT c c') :
    NT c (CRes.lift c e).c :=
  CRes.lift_rel (NT.rfl' c) h

theorem bind_nt {c : ChanState} {r : CRes} {f : ChanState → CRes} {ms : Option Nat}
    (hr : NT c r.c) (hi : ChanInv ms r.c) (hf : ∀ c1, ChanInv ms c1 → NT c1 (f c1).c) :
    NT c (r.bind f).c := by
  unfold CRes.bind
  cases r.err with
  | none => exact hr.trans (hf _ hi)
  | some e => exact hr

theorem lastTarget_le_last {ms : Option Nat} {c : ChanState} {last : Slot} (hi : ChanInv ms c)
    (hl : c.last = .ok last) : c.lastTarget ≤ last.tf := by
  obtain ⟨rest, hr⟩ := last_ok hl
  have hinv := hi.2; rw [hr] at hinv
  have hd := InvR_DescTf hinv
  have h0 := (InvR_head hinv).2
  unfold ChanState.lastTarget
  rw [hr]
  cases hf : (last :: rest).find? Slot.isTarget with
  | none => exact h0
  | some s => exact DescTf_le_head hd s (List.mem_of_find?_eq_some hf)

theorem retargetDelta_ge (c : ChanState) {t : Int} (h : c.lastTarget ≤ t) :
    (c.cfg.fixedRetarget : Int) ≤ retargetDelta c t ∧
      (c.cfg.minRetarget : Int) ≤ t + retargetDelta c t - c.lastTarget := by
  -- `delta0 = clip (retarget − elapsed) 0 retarget` is not negative, and at least
  -- `retarget − elapsed` since the elapsed time is not negative; a fixed retarget time only raises it
  unfold retargetDelta
  simp only
  split <;> omega

theorem addTargetTail_spec {ms : Option Nat} {c c' : ChanState} {qs : List Nat}
    (hi : ChanInv ms c) (h : addTargetTail ms c qs = .ok c') :
    ∃ (last : Slot) (delta : Nat), c.last = .ok last ∧
      c' = { c with slots := c.slots ++ [⟨.target, last.tf, last.tf + (delta : Int), qs⟩] } ∧
      c.cfg.fixedRetarget ≤ delta ∧ (delta = 0 ∨ c.cfg.minDur ≤ delta) ∧
      (c.cfg.minRetarget : Int) ≤ last.tf + delta - c.lastTarget := by
  obtain ⟨last, delta, hl, hd, _, rfl⟩ := addTargetTail_shape h
  have h1 := retargetDelta_ge c (lastTarget_le_last hi hl)
  have h2 := retarget_adjusted hi.1 hd
  exact ⟨last, delta, hl, rfl, Int.ofNat_le.mp (Int.le_trans h1.1 h2.2), h2.1.imp id And.left,
    Int.le_trans h1.2 (Int.sub_le_sub_right (Int.add_le_add_left h2.2 _) _)⟩

/-- **`add_target`**, outside EOM mode, **keeps `LPC`** (the target instruction is appended after
`wait_for_fall`, i.e. at or after the end, standard fall time included, of the last pulse)
**and the retarget rule**. -/
theorem addTarget_kg {ms : Option Nat} {c : ChanState} {qs : List Nat} (hi : ChanInv ms c)
    (hne : c.inEomMode = false) : KG c (addTarget ms c qs).c := by
  refine ⟨(addTarget_inv hi).2, ?_⟩
  rcases addTarget_cases ms c qs with h | ⟨he, _, h⟩ | ⟨c1, hw, h⟩
  · rw [h]; exact ⟨fun _ h => h, fun h => h⟩
  · rw [h]
    exact ⟨fun _ hl => LPCc_snoc hl fun _ q pq hq => (by rw [he] at hq; cases hq),
      fun hr => RTc_snoc hr fun hne => absurd (by rw [he]; rfl) hne⟩
  · obtain ⟨hnt, heom, hfacts⟩ := waitForFall_nt hi hw
    obtain ⟨hfp, hdur⟩ := hfacts hne
    have hi1 : ChanInv ms c1 := (waitForFall_inv hi hw).1
    rcases h with h | ht
    · rw [h]; exact hnt.kg.2
    · generalize (addTarget ms c qs).c = c2 at ht ⊢
      obtain ⟨last, delta, hl, rfl, hfix, _, hmin⟩ := addTargetTail_spec hi1 ht
      refine ⟨fun hf hlpc => ?_,
        fun hrt => RTc_snoc (hnt.kg.2.2 hrt) fun _ _ => ⟨le_span hfix _, hmin⟩⟩
      have hf1 : FallsOkC c1 := fun s hs p hp => hf s (List.mem_append_left _ hs) p hp
      refine LPCc_snoc (hnt.kg.2.1 hf1 hlpc) fun _ q pq hq => ?_
      -- the fall wait brought the channel's end past the last pulse's fall
      rw [hfp] at hq
      exact getDuration_false_last hl ▸
        Int.le_trans (getDuration_true_ge hi hne (FallsOkC_of_Ext hnt.1 hf1) hq).1 hdur

/-- Good step that appends non-target instructions only. -/
def GN (ms : Option Nat) (c c' : ChanState) : Prop := Good ms c c' ∧ NT c c'

theorem GN.rfl' {ms : Option Nat} {c : ChanState} (h : ChanInv ms c) : GN ms c c := ⟨Good.rfl' h, NT.rfl' c⟩

theorem GN.trans {ms : Option Nat} {a b c : ChanState} (h1 : GN ms a b) (h2 : GN ms b c) : GN ms a c :=
  ⟨h1.1.trans h2.1, h1.2.trans h2.2⟩

theorem lift_gn {ms : Option Nat} {c : ChanState} {e : Except Err ChanState} (hi : ChanInv ms c)
    (h : ∀ c', e = .ok c' → GN ms c c') : GN ms c (CRes.lift c e).c :=
  CRes.lift_rel (GN.rfl' hi) h

theorem addDelay_gn {ms : Option Nat} {c c' : ChanState} {d : Nat} (hi : ChanInv ms c)
    (h : addDelay ms c d = .ok c') : GN ms c c' := by
  refine ⟨addDelay_inv hi h, ?_⟩
  obtain ⟨last, x, _, _, hx, _, _, _, hc'⟩ := addDelay_nt hi.1 h
  subst hc'; exact NT_snoc c x hx

theorem waitForFall_gn {ms : Option Nat} {c c' : ChanState} (hi : ChanInv ms c)
    (h : waitForFall ms c = .ok c') : GN ms c c' :=
  ⟨waitForFall_inv hi h, (waitForFall_nt hi h).1⟩

theorem addPulse_gn {ms : Option Nat} {c c' : ChanState} {others : List ChanState}
    {p : PulseRec} {barriers : List Int} {proto : Protocol} {drift : Option Drift}
    (hi : ChanInv ms c) (hp : c.cfg.clock ∣ p.dur ∧ c.cfg.minDur ≤ p.dur)
    (hlim : PulseLim c.cfg c.maxW c.sumW p)
    (h : addPulse ms c others p barriers proto drift = .ok c') : GN ms c c' := by
  refine ⟨addPulse_inv hi hp hlim h, ?_⟩
  obtain ⟨last, slot, c1, x, hl, hm, hc1, _, _, _, rfl⟩ := addPulse_shape hi.1 h
  obtain ⟨_, p', _, _, _, h4, _⟩ := makeNextPulseSlot_spec hi.1 hl hm
  have hnt : NT c c1 := by
    rcases hc1 with rfl | ⟨d, had⟩
    · exact NT.rfl' _
    · exact (addDelay_gn hi had).2
  exact hnt.trans (NT_snoc c1 slot (by simp [Slot.isTarget, h4]))

theorem GN_eom {ms : Option Nat} {c : ChanState} (hi : ChanInv ms c) (e : List EomBlock) :
    GN ms c { c with eom := e } := ⟨Good_eom hi e, NT.rfl' c⟩

theorem Wait.gn {ms : Option Nat} {c c' : ChanState} (hi : ChanInv ms c) (h : Wait ms c c') :
    GN ms c c' := by
  rcases h with rfl | ⟨d, h⟩ | ⟨d0, d, x, p, ha, hm, h⟩
  · exact GN.rfl' hi
  · exact addDelay_gn hi h
  · have hpk := mkDetunedDelay_pulseOk hi.1 ha hm
    exact addPulse_gn hi hpk.1 hpk.2 h

theorem enableEom_gn {ms : Option Nat} {c : ChanState} {amp detOn detOff : Rat} {sb sw : Bool}
    (hi : ChanInv ms c) : GN ms c (enableEom ms c amp detOn detOff sb sw).c := by
  obtain ⟨c1, c2, w1, w2, h⟩ := enableEom_shape ms c amp detOn detOff sb sw
  have g1 := w1.gn hi
  have g2 := g1.trans (w2.gn g1.1.1)
  rcases h with ⟨h, _⟩ | ⟨last, _, h⟩ <;> rw [h]
  · exact g2
  · exact g2.trans (GN_eom g2.1.1 _)

theorem disableEom_gn {ms : Option Nat} {c : ChanState} {sb : Bool}
    (hi : ChanInv ms c) : GN ms c (disableEom ms c sb).c := by
  rcases disableEom_shape ms c sb with ⟨h, _⟩ | ⟨last, _, w⟩
  · rw [h]; exact GN.rfl' hi
  · have g := GN_eom hi (closeLastBlock c.eom last.tf)
    exact g.trans (w.gn g.1.1)

theorem RT_suffix (cfg : ChanCfg) (a b : List Slot) (h : RT cfg (a ++ b)) : RT cfg b := by
  induction a with
  | nil => exact h
  | cons x rest ih => exact ih h.2

theorem LPC_suffix (a b : List Slot) (h : LPC (a ++ b)) : LPC b := by
  induction a with
  | nil => exact h
  | cons x rest ih => exact ih h.2

/-! ### Whole sequences: every call, every history -/

def LPCAll (s : SeqState) : Prop := ∀ c ∈ s.chans, LPCc c

def RTAll (s : SeqState) : Prop := ∀ c ∈ s.chans, RTc c

/-- A1 (standard mode) for every pulse of every channel. -/
def FallsOk (s : SeqState) : Prop := ∀ c ∈ s.chans, FallsOkC c

/-- Good successor that also keeps `LPC`: old channels are `KG`-extended in place, channels
beyond the old ones are new and satisfy `LPC` (given A1). -/
def SK (s s' : SeqState) : Prop :=
  SG s s' ∧
  (∀ (i : Nat) (c : ChanState), s.chans[i]? = some c → ∃ c', s'.chans[i]? = some c' ∧ KG c c') ∧
  (∀ (i : Nat) (c' : ChanState), s.chans.length ≤ i → s'.chans[i]? = some c' →
    (FallsOkC c' → LPCc c') ∧ RTc c')

/-- The relation of the conflict pass; `SK` is `SX XK`. -/
def XK : CRel where
  R := KG
  N := fun c => (FallsOkC c → LPCc c) ∧ RTc c
  refl := KG.rfl'
  trans := KG.trans
  step := fun h0 k => ⟨fun hf => k.2.1 hf (h0.1 (FallsOkC_of_Ext k.1 hf)), k.2.2 h0.2⟩

theorem SK.keeps {s s' : SeqState} (h : SK s s') (hf : FallsOk s') (hl : LPCAll s) : LPCAll s' := by
  intro c' hc'
  rcases SX.mem (X := XK) h hc' with ⟨c, hc, k⟩ | hn
  · exact k.2.1 (hf _ hc') (hl c hc)
  · exact hn.1 (hf _ hc')

theorem SK.keepsRT {s s' : SeqState} (h : SK s s') (hl : RTAll s) : RTAll s' := by
  intro c' hc'
  rcases SX.mem (X := XK) h hc' with ⟨c, hc, k⟩ | hn
  · exact k.2.2 (hl c hc)
  · exact hn.2

theorem freshChan_lpc {name : ChName} {chId : Nat} {cfg : ChanCfg} {qs : List Nat} {w : Bool}
    {a b : Rat} : LPCc (SeqState.freshChan name chId cfg qs w a b) ∧
      RTc (SeqState.freshChan name chId cfg qs w a b) := by
  cases w with
  | false => exact ⟨trivial, trivial⟩
  | true => exact ⟨⟨fun _ q pq h => by simp [firstPulse] at h, trivial⟩, fun h => absurd rfl h, trivial⟩

/-- The conflict pass: `add_target` waits for the fall outside EOM mode, every other operation
appends pulses and delays only. -/
theorem passK (dev : Device) (nQ : Nat) : Pass XK dev nQ where
  chan h hi := by
    cases h with
    | target qs hm => exact addTarget_kg hi hm
    | wait h => exact (waitForFall_gn hi h).2.kg
    | delay h => exact (addDelay_gn hi h).2.kg
    | pulse hv ha =>
      have hva := validateAndAdjust_ok hi.1 hv
      exact (addPulse_gn hi hva.1 hva.2.1 ha).2.kg
    | enable => exact (enableEom_gn hi).2.kg
    | disable => exact (disableEom_gn hi).2.kg
  oracle c _ := ⟨.oracle c _, fun _ hl => hl, fun h => h⟩

theorem freshK {dev : Device} (nQ : Nat) (hd : DevOk dev) : Fresh XK dev nQ :=
  ⟨hd, fun _ _ _ _ _ _ => ⟨fun _ => freshChan_lpc.1, freshChan_lpc.2⟩⟩

def RK (s : SeqState) (r : Raw) : Prop := SK s r.st

/-- Every API call — successful or raising — keeps `LPC` (relation `SK`). -/
theorem stepRaw_RK {s : SeqState} (hd : DevOk s.dev) (hi : SeqInv s) (op : Op) :
    RK s (stepRaw s op) :=
  (passK _ _).steps (stepRaw_moves s op) (fun _ => freshK _ hd) hi

theorem runEv_SK {s : SeqState} (hd : DevOk s.dev) (hi : SeqInv s) (evs : List Ev) :
    SK s (runEv s evs) :=
  (passK _ _).steps (runEv_moves s evs) (fun _ => freshK _ hd) hi

/-- `LPC` along whole histories: A1 is only needed for the pulses present at the end (earlier
states hold fewer pulses of the same channels). -/
theorem runEv_LPC {s : SeqState} (hd : DevOk s.dev) (hi : SeqInv s) (hl : LPCAll s) (evs : List Ev)
    (hf : FallsOk (runEv s evs)) : LPCAll (runEv s evs) :=
  (runEv_SK hd hi evs).keeps hf hl

/-- The retarget rule along whole histories. -/
theorem runEv_RT {s : SeqState} (hd : DevOk s.dev) (hi : SeqInv s) (hl : RTAll s) (evs : List Ev) :
    RTAll (runEv s evs) :=
  (runEv_SK hd hi evs).keepsRT hl

end Pulser
