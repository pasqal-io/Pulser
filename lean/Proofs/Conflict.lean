/-
  Proofs.Conflict — the full no-conflict argument (C03): the scan of `_find_add_delay` is never
  earlier than the end (fall time included) of the most recent pulse *sharing a target atom*,
  even when that pulse lies behind retargets of the other channel.

  Ingredients (all on the reversed instruction list of the other channel):
  * `DescTf`            end times decrease                         (from the timeline invariant)
  * `TargetsRule`       only target instructions change the targets (from the timeline invariant)
  * `LPC`               "last pulse clear": a target instruction starts only after the pulse
                        right before it has ramped down (fall time outside EOM mode)
  * A1 / A2             `fall ≤ 2·rise_time`, `fallEom ≤ fallStd`   (monitored oracle hypotheses)
-/
import Proofs.Protocol
namespace Pulser

/-- Non-target instructions carry the targets of the instruction before them. -/
def TargetsRule : List Slot → Prop
  | [] => True
  | [_] => True
  | a :: b :: rest => (a.isTarget = false → a.targets = b.targets) ∧ TargetsRule (b :: rest)

theorem TargetsRule_tail {a : Slot} {l : List Slot} (h : TargetsRule (a :: l)) : TargetsRule l := by
  cases l with
  | nil => trivial
  | cons b rest => exact h.2

theorem InvR_TargetsRule {x : Ctx} {l : List Slot} (h : InvR x l) : TargetsRule l := by
  induction l with
  | nil => trivial
  | cons a rest ih =>
    cases rest with
    | nil => trivial
    | cons b rest' =>
      obtain ⟨⟨_, _, _, _, h4⟩, h5⟩ := h
      refine ⟨?_, ih h5⟩
      intro hnt
      cases hk : a.kind with
      | target => simp [Slot.isTarget, hk] at hnt
      | delay => rw [hk] at h4; exact h4.2
      | pulse p => rw [hk] at h4; exact h4.2.2.1

theorem InvR_wf {x : Ctx} {l : List Slot} (h : InvR x l) : ∀ s ∈ l, s.ti ≤ s.tf := by
  induction l with
  | nil => intro s hs; cases hs
  | cons a rest ih =>
    intro s hs
    cases rest with
    | nil =>
      simp at hs; subst hs
      obtain ⟨_, h2, h3⟩ := h; omega
    | cons b rest' =>
      obtain ⟨⟨_, h2, _⟩, h5⟩ := h
      rcases List.mem_cons.mp hs with hh | hh
      · subst hh; exact h2
      · exact ih h5 s hh

/-- Last pulse clear: every target instruction starts at or after the end, standard fall time
included, of the most recent pulse before it. -/
def LPC : List Slot → Prop
  | [] => True
  | s :: rest =>
    (s.isTarget = true → ∀ q pq, firstPulse rest = some (q, pq) → q.tf + (pq.fallStd : Nat) ≤ s.ti) ∧
    LPC rest

/-- The most recent pulse whose targets meet `myT` (every pulse under 'wait-for-all'). -/
def recentShared (myT : List Nat) (wa : Bool) : List Slot → Option (Slot × PulseRec)
  | [] => none
  | s :: rest => match s.kind with
    | .pulse p => if (s.targets.any (myT.contains ·) || wa) then some (s, p) else recentShared myT wa rest
    | _ => recentShared myT wa rest

theorem recentShared_mem {myT : List Nat} {wa : Bool} {l : List Slot} {q : Slot} {pq : PulseRec}
    (h : recentShared myT wa l = some (q, pq)) :
    q ∈ l ∧ q.kind = .pulse pq ∧ (q.targets.any (myT.contains ·) || wa) = true := by
  induction l with
  | nil => cases h
  | cons s rest ih =>
    unfold recentShared at h
    split at h
    · rename_i p hp
      split at h
      · rename_i hs
        injection h with h; injection h with h1 h2; subst h1 h2
        exact ⟨List.mem_cons_self, hp, hs⟩
      · have := ih h; exact ⟨List.mem_cons_of_mem _ this.1, this.2⟩
    · have := ih h; exact ⟨List.mem_cons_of_mem _ this.1, this.2⟩

/-- Between an instruction `x` and the first pulse `q` behind it, if their targets differ there
is a target instruction, and `q` is the pulse right before it: `LPC` applies to `q`. -/
theorem clear_behind_retarget {x : Slot} {rest : List Slot} {q : Slot} {pq : PulseRec}
    (hx : x.isTarget = false) (htr : TargetsRule (x :: rest)) (hlpc : LPC rest)
    (hd : DescTf (x :: rest)) (hwf : ∀ s ∈ rest, s.ti ≤ s.tf)
    (hfp : firstPulse rest = some (q, pq)) (hne : x.targets ≠ q.targets) :
    q.tf + (pq.fallStd : Nat) ≤ x.tf := by
  induction rest generalizing x with
  | nil => cases hfp
  | cons y rest' ih =>
    have hxy : x.targets = y.targets := htr.1 hx
    have hyx : y.tf ≤ x.tf := hd.1
    unfold firstPulse at hfp
    cases hk : y.kind with
    | pulse p =>
      simp only [hk] at hfp
      injection hfp with hfp; injection hfp with h1 h2; subst h1
      exact absurd hxy hne
    | target =>
      simp only [hk] at hfp
      have hyt : y.isTarget = true := by simp [Slot.isTarget, hk]
      exact Int.le_trans (Int.le_trans (hlpc.1 hyt q pq hfp) (hwf y List.mem_cons_self)) hyx
    | delay =>
      simp only [hk] at hfp
      have hyt : y.isTarget = false := by simp [Slot.isTarget, hk]
      exact Int.le_trans (ih hyt htr.2 hlpc.2 (DescTf_tail hd)
        (fun s hs => hwf s (List.mem_cons_of_mem _ hs)) hfp (by rw [← hxy]; exact hne)) hyx

/-- Where the most recent sharing pulse sits: it is either the very first pulse met by the
backward scan, or it ended (standard fall time included) before the end of some instruction
of the list — the pulse or target instruction that hides it. -/
theorem recentShared_bounded {myT : List Nat} {l : List Slot} {q : Slot} {pq : PulseRec}
    (htr : TargetsRule l) (hlpc : LPC l) (hd : DescTf l) (hwf : ∀ s ∈ l, s.ti ≤ s.tf)
    (h : recentShared myT false l = some (q, pq)) :
    firstPulse l = some (q, pq) ∨ ∃ s ∈ l, q.tf + (pq.fallStd : Nat) ≤ s.tf := by
  induction l with
  | nil => cases h
  | cons y rest ih =>
    have htr' := TargetsRule_tail htr
    have ih' := fun h' => ih htr' hlpc.2 (DescTf_tail hd) (fun s hs => hwf s (List.mem_cons_of_mem _ hs)) h'
    unfold recentShared at h
    cases hk : y.kind with
    | pulse p =>
      simp only [hk] at h
      by_cases hs : (y.targets.any (myT.contains ·) || false) = true
      · rw [if_pos hs] at h
        injection h with h; injection h with h1 h2; subst h1 h2
        left; unfold firstPulse; simp [hk]
      · rw [if_neg hs] at h
        right
        rcases ih' h with hfp | ⟨s, hs', hb⟩
        · have hq := recentShared_mem h
          have hne : y.targets ≠ q.targets := by
            intro e
            rw [e] at hs
            exact hs hq.2.2
          have hyt : y.isTarget = false := by simp [Slot.isTarget, hk]
          exact ⟨y, List.mem_cons_self,
            clear_behind_retarget hyt htr hlpc.2 hd (fun s hs => hwf s (List.mem_cons_of_mem _ hs)) hfp hne⟩
        · exact ⟨s, List.mem_cons_of_mem _ hs', hb⟩
    | _ =>
      simp only [hk] at h
      rcases ih' h with hfp | ⟨s, hs', hb⟩
      · left; unfold firstPulse; simp [hk]; exact hfp
      · right; exact ⟨s, List.mem_cons_of_mem _ hs', hb⟩

/-- **Full scan bound ('min-delay').**  The backward scan of `_find_add_delay` over another
channel returns at least the end — fall time in that channel's current mode included — of
its most recent pulse sharing a target atom, wherever that pulse lies in the channel's history. -/
theorem scan_ge_shared (r2 : Nat) (inEom : Bool) (myT : List Nat) :
    ∀ (l : List Slot) (cur : Int), DescTf l → TargetsRule l → LPC l → (∀ s ∈ l, s.ti ≤ s.tf) →
      (∀ s ∈ l, ∀ p, s.kind = .pulse p → p.fall inEom ≤ r2 ∧ p.fall inEom ≤ p.fallStd) →
      ∀ q pq, recentShared myT false l = some (q, pq) →
        q.tf + (pq.fall inEom : Nat) ≤ findAddDelayChan r2 inEom myT false cur l := by
  intro l
  induction l with
  | nil => intro cur _ _ _ _ _ q pq h; cases h
  | cons op rest ih =>
    intro cur hd htr hlpc hwf hA q pq hq
    have htr' := TargetsRule_tail htr
    have hwf' : ∀ s ∈ rest, s.ti ≤ s.tf := fun s hs => hwf s (List.mem_cons_of_mem _ hs)
    have hA' : ∀ s ∈ rest, ∀ p, s.kind = .pulse p → p.fall inEom ≤ r2 ∧ p.fall inEom ≤ p.fallStd :=
      fun s hs => hA s (List.mem_cons_of_mem _ hs)
    unfold findAddDelayChan
    unfold recentShared at hq
    cases hk : op.kind with
    | pulse p =>
      simp only [hk] at hq ⊢
      by_cases hs : (op.targets.any (myT.contains ·) || false) = true
      · rw [if_pos hs] at hq
        injection hq with hq; injection hq with h1 h2; subst h1 h2
        by_cases h1 : op.tf + (p.fall inEom : Nat) ≤ cur
        · rw [if_pos h1]; exact h1
        · rw [if_neg h1, if_pos hs]; exact Int.le_refl _
      · rw [if_neg hs] at hq
        have hqm := recentShared_mem hq
        have hqA := hA' q hqm.1 pq hqm.2.1
        by_cases h1 : op.tf + (p.fall inEom : Nat) ≤ cur
        · rw [if_pos h1]
          -- the sharing pulse is hidden behind `op`: it ended before `op` did
          have hb : q.tf + (pq.fallStd : Nat) ≤ op.tf := by
            rcases recentShared_bounded htr' hlpc.2 (DescTf_tail hd) hwf' hq with hfp | ⟨s, hs', hb⟩
            · have hne : op.targets ≠ q.targets := by
                intro e; rw [e] at hs; exact hs hqm.2.2
              have hot : op.isTarget = false := by simp [Slot.isTarget, hk]
              exact clear_behind_retarget hot htr hlpc.2 hd hwf' hfp hne
            · exact Int.le_trans hb (DescTf_le hd s hs')
          -- `q.tf + fall ≤ q.tf + fallStd ≤ op.tf ≤ op.tf + p.fall ≤ cur`
          exact Int.le_trans (Int.le_trans (Int.add_le_add_left (Int.ofNat_le.mpr hqA.2) _) hb)
            (Int.le_trans (le_add_dur _ _) h1)
        · rw [if_neg h1, if_neg hs]
          exact ih cur (DescTf_tail hd) htr' hlpc.2 hwf' hA' q pq hq
    | _ =>
      simp only [hk] at hq ⊢
      have hqm := recentShared_mem hq
      have hqA := hA' q hqm.1 pq hqm.2.1
      by_cases h1 : op.tf + (r2 : Int) ≤ cur
      · rw [if_pos h1]
        exact Int.le_trans (Int.add_le_add (DescTf_le hd q hqm.1) (Int.ofNat_le.mpr hqA.1)) h1
      · rw [if_neg h1]
        exact ih cur (DescTf_tail hd) htr' hlpc.2 hwf' hA' q pq hq

theorem recentShared_all (myT : List Nat) (l : List Slot) : recentShared myT true l = firstPulse l := by
  induction l with
  | nil => rfl
  | cons s rest ih =>
    unfold recentShared firstPulse
    cases s.kind with
    | pulse p => simp
    | target => simpa using ih
    | delay => simpa using ih

end Pulser
