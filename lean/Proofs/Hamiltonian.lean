/-
  Proofs.Hamiltonian — helper lemmas for C05.

  Part A: register tensor order (Kronecker product ↔ digits of the basis-state number).
  Part B: algebra of the matrix units: the code's assembly (`hamHalf + dagger`) equals the
          documented entry-wise formula, over any commutative ring with a conjugation.
  Part C: `Cx R`, the complex numbers over a commutative ring `R`, are such a ring (the instance the
          examples of C05 run on, with `R = ℚ`).
-/
import Mathlib.Tactic.Ring
import Mathlib.Algebra.Ring.MinimalAxioms
import Mathlib.Data.List.Nodup
import PulserModel.Hamiltonian

namespace Pulser
namespace Ham

/-! ## Part A — indices -/

theorem idxOf_congr (d n : Nat) (s t : Nat → Nat) (h : ∀ j, j < n → s j = t j) :
    idxOf d n s = idxOf d n t := by
  induction n with
  | zero => rfl
  | succ m ih =>
    simp only [idxOf]
    rw [ih fun j hj => h j (Nat.lt_succ_of_lt hj), h m (Nat.lt_succ_self m)]

theorem idxOf_lt (d n : Nat) (s : Nat → Nat) (hs : ∀ j, j < n → s j < d) :
    idxOf d n s < d ^ n := by
  induction n with
  | zero => exact Nat.one_pos
  | succ m ih =>
    have h1 := ih fun j hj => hs j (Nat.lt_succ_of_lt hj)
    calc idxOf d m s * d + s m < idxOf d m s * d + d := Nat.add_lt_add_left (hs m (Nat.lt_succ_self m)) _
      _ = (idxOf d m s + 1) * d := (Nat.succ_mul _ _).symm
      _ ≤ d ^ m * d := Nat.mul_le_mul_right d h1

theorem digit_lt (d n j k : Nat) (hd : 0 < d) : digit d n j k < d := Nat.mod_lt _ hd

theorem digit_succ_last (d m k : Nat) : digit d (m + 1) m k = k % d := by
  rw [digit, Nat.add_sub_cancel, Nat.sub_self, Nat.pow_zero, Nat.div_one]

theorem digit_succ_lt (d m j k : Nat) (hj : j < m) : digit d (m + 1) j k = digit d m j (k / d) := by
  unfold digit
  have e : m + 1 - 1 - j = (m - 1 - j) + 1 := by
    rw [Nat.add_sub_cancel, Nat.sub_right_comm, Nat.sub_add_cancel (Nat.sub_pos_of_lt hj)]
  rw [e, Nat.pow_succ, Nat.mul_comm, ← Nat.div_div_eq_div_mul]

theorem digit_idxOf (d n : Nat) (s : Nat → Nat) (hs : ∀ j, j < n → s j < d) (j : Nat) (hj : j < n) :
    digit d n j (idxOf d n s) = s j := by
  induction n with
  | zero => exact absurd hj (Nat.not_lt_zero j)
  | succ m ih =>
    have hm := hs m (Nat.lt_succ_self m)
    rw [idxOf]
    rcases Nat.lt_succ_iff_lt_or_eq.1 hj with hj' | rfl
    · rw [digit_succ_lt _ _ _ _ hj', Nat.mul_comm, Nat.mul_add_div (Nat.zero_lt_of_lt hm),
        Nat.div_eq_of_lt hm, Nat.add_zero]
      exact ih (fun j hj => hs j (Nat.lt_succ_of_lt hj)) hj'
    · rw [digit_succ_last, Nat.mul_comm, Nat.mul_add_mod, Nat.mod_eq_of_lt hm]

theorem idxOf_digit (d n k : Nat) (hd : 0 < d) (hk : k < d ^ n) :
    idxOf d n (fun j => digit d n j k) = k := by
  induction n generalizing k with
  | zero => exact (Nat.lt_one_iff.1 (by rwa [pow_zero] at hk)).symm
  | succ m ih =>
    rw [idxOf, digit_succ_last, idxOf_congr _ _ _ _ fun j hj => digit_succ_lt d m j k hj,
      ih (k / d) ((Nat.div_lt_iff_lt_mul hd).2 (by rwa [Nat.pow_succ] at hk))]
    exact Nat.div_add_mod' k d

section Ring
variable {K : Type} [CommRing K]

theorem kron_entry (q : Nat) (A B : Mat K) (a a' b b' : Nat) (hb : b < q) (hb' : b' < q) :
    kron q A B (a * q + b) (a' * q + b') = A a a' * B b b' := by
  unfold kron
  have hq : 0 < q := Nat.zero_lt_of_lt hb
  rw [Nat.mul_comm a q, Nat.mul_comm a' q, Nat.mul_add_div hq, Nat.mul_add_div hq,
    Nat.div_eq_of_lt hb, Nat.div_eq_of_lt hb', Nat.mul_add_mod, Nat.mul_add_mod,
    Nat.mod_eq_of_lt hb, Nat.mod_eq_of_lt hb']
  simp

theorem tensorN_idxOf (d n : Nat) (F : Nat → Mat K) (s t : Nat → Nat)
    (hs : ∀ j, j < n → s j < d) (ht : ∀ j, j < n → t j < d) :
    tensorN d n F (idxOf d n s) (idxOf d n t) = prodN n (fun j => F j (s j) (t j)) := by
  induction n with
  | zero => simp [tensorN, prodN]
  | succ m ih =>
    simp only [tensorN, idxOf, prodN]
    rw [kron_entry _ _ _ _ _ _ _ (hs m (Nat.lt_succ_self m)) (ht m (Nat.lt_succ_self m)),
      ih (fun j hj => hs j (Nat.lt_succ_of_lt hj)) fun j hj => ht j (Nat.lt_succ_of_lt hj)]

/-! ### finite sums and products -/

theorem sumN_congr {α : Type} [Add α] [Zero α] (n : Nat) (f g : Nat → α)
    (h : ∀ i, i < n → f i = g i) : sumN n f = sumN n g := by
  induction n with
  | zero => rfl
  | succ m ih =>
    simp only [sumN]
    rw [ih fun i hi => h i (Nat.lt_succ_of_lt hi), h m (Nat.lt_succ_self m)]

theorem sumN_zero (n : Nat) : sumN n (fun _ => (0 : K)) = 0 := by
  induction n with
  | zero => rfl
  | succ m ih => simp [sumN, ih]

theorem sumN_add (n : Nat) (f g : Nat → K) :
    sumN n (fun i => f i + g i) = sumN n f + sumN n g := by
  induction n with
  | zero => simp [sumN]
  | succ m ih => simp only [sumN, ih]; ring

theorem sumN_mul_left (n : Nat) (c : K) (f : Nat → K) :
    sumN n (fun i => c * f i) = c * sumN n f := by
  induction n with
  | zero => simp [sumN]
  | succ m ih => simp only [sumN, ih]; ring

theorem prodN_congr (n : Nat) (f g : Nat → K) (h : ∀ i, i < n → f i = g i) :
    prodN n f = prodN n g := by
  induction n with
  | zero => rfl
  | succ m ih =>
    simp only [prodN]
    rw [ih fun i hi => h i (Nat.lt_succ_of_lt hi), h m (Nat.lt_succ_self m)]

theorem prodN_mul (n : Nat) (f g : Nat → K) :
    prodN n (fun j => f j * g j) = prodN n f * prodN n g := by
  induction n with
  | zero => simp [prodN]
  | succ m ih => simp only [prodN, ih]; ring

theorem prodN_single (n i : Nat) (a : K) :
    prodN n (fun j => if j = i then a else 1) = if i < n then a else 1 := by
  induction n with
  | zero => rfl
  | succ m ih =>
    rw [prodN, ih]
    -- `i` is among the first `m`, or is the new factor, or is not there yet
    rcases Nat.lt_trichotomy i m with h | rfl | h
    · rw [if_pos h, if_neg (Nat.ne_of_gt h), if_pos (Nat.lt_succ_of_lt h), mul_one]
    · rw [if_neg (Nat.lt_irrefl i), if_pos rfl, if_pos (Nat.lt_succ_self i), one_mul]
    · rw [if_neg (Nat.lt_asymm h), if_neg (Nat.ne_of_lt h), if_neg (Nat.not_lt.2 h), one_mul]

theorem agreeOff_succ (m : Nat) (ex : List Nat) (s t : Nat → Nat) :
    agreeOff (m + 1) ex s t ↔ agreeOff m ex s t ∧ (m ∉ ex → s m = t m) := by
  unfold agreeOff
  constructor
  · intro h
    exact ⟨fun j hj => h j (Nat.lt_succ_of_lt hj), h m (Nat.lt_succ_self m)⟩
  · rintro ⟨h1, h2⟩ j hj
    rcases Nat.lt_succ_iff_lt_or_eq.1 hj with hlt | rfl
    · exact h1 j hlt
    · exact h2

/-- A product of Kronecker deltas over the atoms outside `ex` is the delta of "the two
configurations agree outside `ex`": an entry of an operator on a few atoms is that delta times
its local entry (`buildOp_one`, `buildOp_two`). -/
theorem prodN_delta (n : Nat) (ex : List Nat) (s t : Nat → Nat) :
    prodN n (fun j => if j ∈ ex then (1 : K) else if s j = t j then 1 else 0)
      = if agreeOff n ex s t then 1 else 0 := by
  induction n with
  | zero => exact (if_pos fun _ h => absurd h (Nat.not_lt_zero _)).symm
  | succ m ih =>
    -- one more factor, one more conjunct
    rw [prodN, ih, ← ite_or, ite_zero_mul_ite_zero, mul_one]
    exact if_congr (by rw [agreeOff_succ, or_iff_not_imp_left]) rfl rfl

end Ring

/-! ## Part B — matrix units -/

/-- What is used of the conjugation: an involutive ring homomorphism. -/
structure ConjLaws (K : Type) [CommRing K] [HasConj K] : Prop where
  conj_add : ∀ a b : K, conj (a + b) = conj a + conj b
  conj_mul : ∀ a b : K, conj (a * b) = conj a * conj b
  conj_neg : ∀ a : K, conj (-a) = -conj a
  conj_zero : conj (0 : K) = 0
  conj_one : conj (1 : K) = 1
  conj_conj : ∀ a : K, conj (conj a) = a

section Units
variable {K : Type} [CommRing K] [HasConj K]

theorem agreeOff_symm (n : Nat) (ex : List Nat) (s t : Nat → Nat) :
    agreeOff n ex s t ↔ agreeOff n ex t s := by
  unfold agreeOff
  constructor <;> intro h j hj hx <;> exact (h j hj hx).symm

theorem sumN_conj (L : ConjLaws K) (n : Nat) (f : Nat → K) :
    conj (sumN n f) = sumN n (fun i => conj (f i)) := by
  induction n with
  | zero => simp [sumN, L.conj_zero]
  | succ m ih => simp only [sumN, L.conj_add, ih]

omit [HasConj K] in
theorem sumPairs_congr (n : Nat) (f g : Nat → Nat → K)
    (h : ∀ i j, i < j → j < n → f i j = g i j) : sumPairs n f = sumPairs n g := by
  unfold sumPairs
  apply sumN_congr
  intro i _
  apply sumN_congr
  intro j hj
  by_cases hij : i < j
  · simp [hij, h i j hij hj]
  · simp [hij]

omit [HasConj K] in
theorem sumPairs_add (n : Nat) (f g : Nat → Nat → K) :
    sumPairs n (fun i j => f i j + g i j) = sumPairs n f + sumPairs n g := by
  unfold sumPairs
  rw [← sumN_add]
  apply sumN_congr
  intro i _
  rw [← sumN_add]
  apply sumN_congr
  intro j _
  by_cases hij : i < j <;> simp [hij]

theorem sumPairs_conj (L : ConjLaws K) (n : Nat) (f : Nat → Nat → K) :
    conj (sumPairs n f) = sumPairs n (fun i j => conj (f i j)) := by
  unfold sumPairs
  rw [sumN_conj L]
  apply sumN_congr
  intro i _
  rw [sumN_conj L]
  apply sumN_congr
  intro j _
  by_cases hij : i < j <;> simp [hij, L.conj_zero]

omit [HasConj K] in
theorem sumPairs_zero (n : Nat) : sumPairs n (fun _ _ => (0 : K)) = 0 := by
  unfold sumPairs
  simp [sumN_zero]

omit [HasConj K] in
theorem opList_one (i : Nat) (A : Mat K) :
    opList [(i, A)] = fun k => if k = i then A else Mat.id := by
  simp [opList]

omit [HasConj K] in
theorem opList_two (i j : Nat) (A B : Mat K) :
    opList [(i, A), (j, B)] = fun k => if k = j then B else if k = i then A else Mat.id := by
  simp [opList]

omit [HasConj K] in
theorem buildOp_one (d n i : Nat) (A : Mat K) (s t : Nat → Nat) (hi : i < n)
    (hs : ∀ j, j < n → s j < d) (ht : ∀ j, j < n → t j < d) :
    buildOp d n [(i, A)] (idxOf d n s) (idxOf d n t)
      = (if agreeOff n [i] s t then 1 else 0) * A (s i) (t i) := by
  unfold buildOp
  rw [tensorN_idxOf d n _ s t hs ht, opList_one]
  have h : ∀ j, j < n → (fun k => if k = i then A else Mat.id) j (s j) (t j)
      = (if j ∈ [i] then (1 : K) else if s j = t j then 1 else 0)
        * (if j = i then A (s i) (t i) else 1) := by
    intro j _
    by_cases e : j = i
    · subst e; simp only [↓reduceIte, List.mem_singleton, one_mul]
    · simp only [e, ↓reduceIte, Mat.id, List.mem_singleton, mul_one]
  rw [prodN_congr n _ _ h, prodN_mul, prodN_delta, prodN_single, if_pos hi]

omit [HasConj K] in
theorem buildOp_two (d n i j : Nat) (A B : Mat K) (s t : Nat → Nat) (hi : i < n) (hj : j < n)
    (hij : i ≠ j) (hs : ∀ j, j < n → s j < d) (ht : ∀ j, j < n → t j < d) :
    buildOp d n [(i, A), (j, B)] (idxOf d n s) (idxOf d n t)
      = (if agreeOff n [i, j] s t then 1 else 0) * (A (s i) (t i) * B (s j) (t j)) := by
  unfold buildOp
  rw [tensorN_idxOf d n _ s t hs ht, opList_two]
  have h : ∀ k, k < n → (fun k => if k = j then B else if k = i then A else Mat.id) k (s k) (t k)
      = (if k ∈ [i, j] then (1 : K) else if s k = t k then 1 else 0)
        * ((if k = i then A (s i) (t i) else 1) * (if k = j then B (s j) (t j) else 1)) := by
    intro k _
    by_cases e1 : k = i
    · subst e1; simp only [hij, ↓reduceIte, List.mem_cons, true_or, mul_one, one_mul]
    · by_cases e2 : k = j
      · subst e2; simp only [↓reduceIte, List.mem_cons, e1, List.not_mem_nil, or_false, or_true, one_mul]
      · simp only [e2, ↓reduceIte, e1, Mat.id, List.mem_cons, List.not_mem_nil, or_self, mul_one]
  rw [prodN_congr n _ _ h, prodN_mul, prodN_mul, prodN_delta, prodN_single, prodN_single,
    if_pos hi, if_pos hj]

/-- The inputs that are real numbers are real, and `half` is one half. -/
structure RealIn (c : HamIn K) : Prop where
  half_real : conj c.half = c.half
  half_add : c.half + c.half = 1
  gdet_real : ∀ β, conj (c.glob β).det = (c.glob β).det
  ldet_real : ∀ β q, q < c.n → conj (c.loc β q).det = (c.loc β q).det
  U_real : ∀ i, i < c.n → ∀ j, j < c.n → conj (c.U i j) = c.U i j

/-- One atom, one basis: `ca |a⟩⟨b| + cd |b⟩⟨b|` plus its hermitian conjugate, `cd + conj cd = e`. -/
theorem drive_alg (L : ConjLaws K) (ag ag' Pab Pba Pba' Pbb Pbb' : Prop)
    [Decidable ag] [Decidable ag'] [Decidable Pab] [Decidable Pba] [Decidable Pba']
    [Decidable Pbb] [Decidable Pbb'] (hag : ag' ↔ ag) (hba : Pba' ↔ Pba) (hbb : Pbb' ↔ Pbb)
    (ca cd e : K) (he : cd + conj cd = e) :
    (ca * ((if ag then 1 else 0) * (if Pab then 1 else 0))
      + cd * ((if ag then 1 else 0) * (if Pbb then 1 else 0)))
    + conj (ca * ((if ag' then 1 else 0) * (if Pba' then 1 else 0))
      + cd * ((if ag' then 1 else 0) * (if Pbb' then 1 else 0)))
    = if ag then ((if Pab then ca else 0)
        + ((if Pba then conj ca else 0) + (if Pbb then e else 0))) else 0 := by
  subst he
  simp only [hag, hba, hbb, L.conj_add]
  by_cases h0 : ag
  · by_cases h3 : Pbb <;>
      simp only [h0, h3, ↓reduceIte, mul_ite, mul_one, mul_zero, add_zero, apply_ite conj, L.conj_zero]
    ring
  · simp only [h0, ↓reduceIte, mul_ite, mul_one, mul_zero, ite_self, add_zero, L.conj_zero]

omit [HasConj K] in
theorem driveTerms_entry (c : HamIn K) (β : Basis) (s t : Nat → Nat)
    (hs : ∀ j, j < c.n → s j < c.d) (ht : ∀ j, j < c.n → t j < c.d) :
    driveTerms c β (idxOf c.d c.n s) (idxOf c.d c.n t)
      = sumN c.n (fun q =>
          (coeffAmp c (c.glob β) + coeffAmp c (c.loc β q))
            * ((if agreeOff c.n [q] s t then 1 else 0) * sigma c.eb β.a β.b (s q) (t q))
          + (coeffDet c (c.glob β) + coeffDet c (c.loc β q))
            * ((if agreeOff c.n [q] s t then 1 else 0) * sigma c.eb β.b β.b (s q) (t q))) := by
  simp only [driveTerms, globalTerms, localTerms, globalOp, Mat.add, Mat.smul, Mat.sumN]
  rw [← sumN_mul_left, ← sumN_mul_left, ← sumN_add, ← sumN_add]
  apply sumN_congr
  intro q hq
  rw [buildOp_one c.d c.n q _ s t hq hs ht, buildOp_one c.d c.n q _ s t hq hs ht]
  ring

theorem drive_pair (L : ConjLaws K) (c : HamIn K) (R : RealIn c) (β : Basis) (s t : Nat → Nat)
    (hs : ∀ j, j < c.n → s j < c.d) (ht : ∀ j, j < c.n → t j < c.d) :
    driveTerms c β (idxOf c.d c.n s) (idxOf c.d c.n t)
      + conj (driveTerms c β (idxOf c.d c.n t) (idxOf c.d c.n s))
      = sumN c.n (fun i => docDrive c β i s t) := by
  rw [driveTerms_entry c β s t hs ht, driveTerms_entry c β t s ht hs, sumN_conj L, ← sumN_add]
  apply sumN_congr
  intro q hq
  have hcd : (coeffDet c (c.glob β) + coeffDet c (c.loc β q))
      + conj (coeffDet c (c.glob β) + coeffDet c (c.loc β q)) = -(totalDet c β q) := by
    simp only [coeffDet, totalDet, L.conj_add, L.conj_mul, L.conj_neg, R.half_real, R.gdet_real,
      R.ldet_real β q hq]
    rw [← mul_add, ← add_mul, ← neg_add, R.half_add, neg_one_mul]
  exact drive_alg L (agreeOff c.n [q] s t) (agreeOff c.n [q] t s)
    (isSt c.eb (s q) β.a ∧ isSt c.eb (t q) β.b) (isSt c.eb (s q) β.b ∧ isSt c.eb (t q) β.a)
    (isSt c.eb (t q) β.a ∧ isSt c.eb (s q) β.b) (isSt c.eb (s q) β.b ∧ isSt c.eb (t q) β.b)
    (isSt c.eb (t q) β.b ∧ isSt c.eb (s q) β.b) (agreeOff_symm _ _ _ _) and_comm and_comm
    (coeffAmp c (c.glob β) + coeffAmp c (c.loc β q)) _ _ hcd

/-- One pair, XY: `u |u⟩⟨d|_i |d⟩⟨u|_j` plus its hermitian conjugate. -/
theorem pair_alg (L : ConjLaws K) (ag ag' A B A' B' P1 P2 : Prop)
    [Decidable ag] [Decidable ag'] [Decidable A] [Decidable B] [Decidable A'] [Decidable B']
    [Decidable P1] [Decidable P2] (hag : ag' ↔ ag) (h1 : P1 ↔ A ∧ B) (h2 : P2 ↔ A' ∧ B')
    (u : K) (hu : conj u = u) :
    u * ((if ag then 1 else 0) * ((if A then 1 else 0) * (if B then 1 else 0)))
      + conj (u * ((if ag' then 1 else 0) * ((if A' then 1 else 0) * (if B' then 1 else 0))))
    = if ag then ((if P1 then u else 0) + (if P2 then u else 0)) else 0 := by
  simp only [ite_zero_mul_ite_zero, mul_one, ← h1, ← h2, hag]
  by_cases h0 : ag
  · by_cases p1 : P1 <;> by_cases p2 : P2 <;> simp [h0, p1, p2, hu, L.conj_zero]
  · simp [h0, L.conj_zero]

/-- One pair, Ising: `w n_i n_j` plus its hermitian conjugate, `w + conj w = u`. -/
theorem vdw_alg (L : ConjLaws K) (ag ag' A B A' B' : Prop)
    [Decidable ag] [Decidable ag'] [Decidable A] [Decidable B] [Decidable A'] [Decidable B']
    (hag : ag' ↔ ag) (hA : A' ↔ A) (hB : B' ↔ B) (w u : K) (hw : w + conj w = u) :
    w * ((if ag then 1 else 0) * ((if A then 1 else 0) * (if B then 1 else 0)))
      + conj (w * ((if ag' then 1 else 0) * ((if A' then 1 else 0) * (if B' then 1 else 0))))
    = if ag ∧ A ∧ B then u else 0 := by
  simp only [ite_zero_mul_ite_zero, mul_one, hag, hA, hB]
  split <;> simp [hw, L.conj_zero]

theorem xyTerm_pair (L : ConjLaws K) (c : HamIn K) (R : RealIn c) (i j : Nat) (s t : Nat → Nat)
    (hi : i < c.n) (hj : j < c.n) (hne : i ≠ j)
    (hs : ∀ j, j < c.n → s j < c.d) (ht : ∀ j, j < c.n → t j < c.d) :
    xyTerm c i j (idxOf c.d c.n s) (idxOf c.d c.n t)
      + conj (xyTerm c i j (idxOf c.d c.n t) (idxOf c.d c.n s)) = docXY c i j s t := by
  simp only [xyTerm, Mat.smul]
  rw [buildOp_two c.d c.n i j _ _ s t hi hj hne hs ht,
    buildOp_two c.d c.n i j _ _ t s hi hj hne ht hs]
  exact pair_alg L (agreeOff c.n [i, j] s t) (agreeOff c.n [i, j] t s)
    (isSt c.eb (s i) .u ∧ isSt c.eb (t i) .d) (isSt c.eb (s j) .d ∧ isSt c.eb (t j) .u)
    (isSt c.eb (t i) .u ∧ isSt c.eb (s i) .d) (isSt c.eb (t j) .d ∧ isSt c.eb (s j) .u)
    _ _ (agreeOff_symm _ _ _ _)
    ⟨fun ⟨a, b, c, d⟩ => ⟨⟨a, b⟩, ⟨c, d⟩⟩, fun ⟨⟨a, b⟩, ⟨c, d⟩⟩ => ⟨a, b, c, d⟩⟩
    ⟨fun ⟨a, b, c, d⟩ => ⟨⟨b, a⟩, ⟨d, c⟩⟩, fun ⟨⟨b, a⟩, ⟨d, c⟩⟩ => ⟨a, b, c, d⟩⟩
    (c.U i j) (R.U_real i hi j hj)

theorem vdwTerm_pair (L : ConjLaws K) (c : HamIn K) (R : RealIn c) (i j : Nat) (s t : Nat → Nat)
    (hi : i < c.n) (hj : j < c.n) (hne : i ≠ j)
    (hs : ∀ j, j < c.n → s j < c.d) (ht : ∀ j, j < c.n → t j < c.d) :
    vdwTerm c i j (idxOf c.d c.n s) (idxOf c.d c.n t)
      + conj (vdwTerm c i j (idxOf c.d c.n t) (idxOf c.d c.n s)) = docVdw c i j s t := by
  simp only [vdwTerm, Mat.smul]
  rw [buildOp_two c.d c.n i j _ _ s t hi hj hne hs ht,
    buildOp_two c.d c.n i j _ _ t s hi hj hne ht hs]
  have hw : c.half * c.U i j + conj (c.half * c.U i j) = c.U i j := by
    rw [L.conj_mul, R.half_real, R.U_real i hi j hj, ← add_mul, R.half_add, one_mul]
  exact vdw_alg L (agreeOff c.n [i, j] s t) (agreeOff c.n [i, j] t s)
    (isSt c.eb (s i) .r ∧ isSt c.eb (t i) .r) (isSt c.eb (s j) .r ∧ isSt c.eb (t j) .r)
    (isSt c.eb (t i) .r ∧ isSt c.eb (s i) .r) (isSt c.eb (t j) .r ∧ isSt c.eb (s j) .r)
    (agreeOff_symm _ _ _ _) and_comm and_comm _ _ hw

theorem inter_pair (L : ConjLaws K) (c : HamIn K) (R : RealIn c) (s t : Nat → Nat)
    (hs : ∀ j, j < c.n → s j < c.d) (ht : ∀ j, j < c.n → t j < c.d) :
    interaction c (idxOf c.d c.n s) (idxOf c.d c.n t)
      + conj (interaction c (idxOf c.d c.n t) (idxOf c.d c.n s))
      = sumPairs c.n (fun i j => docPair c i j s t) := by
  unfold interaction
  by_cases h : (c.xy || c.eb.contains .r) = true
  · simp only [h, if_true, interactionTerm, Mat.sumPairs]
    rw [sumPairs_conj L, ← sumPairs_add]
    apply sumPairs_congr
    intro i j hij hj
    have hi : i < c.n := Nat.lt_trans hij hj
    have hne : i ≠ j := Nat.ne_of_lt hij
    unfold docPair
    by_cases hxy : c.xy = true
    · simp only [hxy, if_true]
      by_cases hm : (c.maskOn && (c.mask i || c.mask j)) = true
      · simp only [hm, ↓reduceIte, Mat.zero, L.conj_zero, add_zero]
      · simp only [hm, Bool.false_eq_true, ↓reduceIte]
        exact xyTerm_pair L c R i j s t hi hj hne hs ht
    · simp only [hxy, Bool.false_eq_true, ↓reduceIte]
      exact vdwTerm_pair L c R i j s t hi hj hne hs ht
  · rw [if_neg h]
    rw [Bool.or_eq_true, not_or, Bool.not_eq_true, List.contains_iff_mem] at h
    obtain ⟨hxy, hr⟩ := h
    have hz : sumPairs c.n (fun i j => docPair c i j s t) = sumPairs c.n (fun _ _ => (0 : K)) := by
      apply sumPairs_congr
      intro i j _ _
      unfold docPair docVdw
      have : ¬ isSt c.eb (s i) .r := fun e => hr (List.mem_of_getElem? e)
      simp only [hxy, Bool.false_eq_true, ↓reduceIte, this, false_and, and_false]
    rw [hz, sumPairs_zero]
    simp only [Mat.zero, L.conj_zero, add_zero]

theorem H_code_idxOf (L : ConjLaws K) (c : HamIn K) (R : RealIn c) (s t : Nat → Nat)
    (hs : ∀ j, j < c.n → s j < c.d) (ht : ∀ j, j < c.n → t j < c.d) :
    H_code c (idxOf c.d c.n s) (idxOf c.d c.n t) = H_docC c s t := by
  unfold H_docC
  rw [← inter_pair L c R s t hs ht, ← drive_pair L c R .groundRydberg s t hs ht,
    ← drive_pair L c R .digital s t hs ht, ← drive_pair L c R .XY s t hs ht]
  simp only [H_code, hamHalf, Mat.add, Mat.dagger, L.conj_add]
  ring

omit [HasConj K] in
theorem docVdw_agree (c : HamIn K) (hnd : c.eb.Nodup) (i j : Nat) (s t : Nat → Nat)
    (hi : i < c.n) (hj : j < c.n) (h : docVdw c i j s t ≠ 0) : ∀ k, k < c.n → s k = t k := by
  unfold docVdw at h
  split at h
  · rename_i hc
    obtain ⟨hag, ⟨h1, h2⟩, ⟨h3, h4⟩⟩ := hc
    have inj : ∀ a b : Nat, isSt c.eb a .r → isSt c.eb b .r → a = b := by
      intro a b ha hb
      unfold isSt at ha hb
      obtain ⟨ha1, ha2⟩ := List.getElem?_eq_some_iff.mp ha
      obtain ⟨hb1, hb2⟩ := List.getElem?_eq_some_iff.mp hb
      exact (List.Nodup.getElem_inj_iff hnd).mp (ha2.trans hb2.symm)
    intro k hk
    by_cases e1 : k = i
    · subst e1; exact inj _ _ h1 h2
    · by_cases e2 : k = j
      · subst e2; exact inj _ _ h3 h4
      · exact hag k hk (by simp [e1, e2])
  · exact absurd rfl h

end Units

/-! ## the concrete scalars `Cx R` -/

namespace Cx
variable {R : Type} [CommRing R]

omit [CommRing R] in
@[ext] theorem ext' {a b : Cx R} (h1 : a.re = b.re) (h2 : a.im = b.im) : a = b := by
  cases a; cases b; simp_all

@[simp] theorem add_re (a b : Cx R) : (a + b).re = a.re + b.re := rfl
@[simp] theorem add_im (a b : Cx R) : (a + b).im = a.im + b.im := rfl
@[simp] theorem mul_re (a b : Cx R) : (a * b).re = a.re * b.re - a.im * b.im := rfl
@[simp] theorem mul_im (a b : Cx R) : (a * b).im = a.re * b.im + a.im * b.re := rfl
@[simp] theorem neg_re (a : Cx R) : (-a).re = -a.re := rfl
@[simp] theorem neg_im (a : Cx R) : (-a).im = -a.im := rfl
@[simp] theorem zero_re : (0 : Cx R).re = 0 := rfl
@[simp] theorem zero_im : (0 : Cx R).im = 0 := rfl
@[simp] theorem one_re : (1 : Cx R).re = 1 := rfl
@[simp] theorem one_im : (1 : Cx R).im = 0 := rfl
@[simp] theorem conj_re (a : Cx R) : (conj a).re = a.re := rfl
@[simp] theorem conj_im (a : Cx R) : (conj a).im = -a.im := rfl

/-- Pairs over a commutative ring form a commutative ring (with the model's `+ * - 0 1`). -/
instance commRing : CommRing (Cx R) :=
  CommRing.ofMinimalAxioms
    (fun _ _ _ => ext' (add_assoc _ _ _) (add_assoc _ _ _))
    (fun _ => ext' (zero_add _) (zero_add _))
    (fun _ => ext' (neg_add_cancel _) (neg_add_cancel _))
    (fun a b c => by ext <;> simp only [mul_re, mul_im] <;> ring)
    (fun a b => by ext <;> simp only [mul_re, mul_im] <;> ring)
    (fun a => by ext <;> simp)
    (fun a b c => by ext <;> simp only [mul_re, mul_im, add_re, add_im] <;> ring)

theorem conjLaws : ConjLaws (Cx R) where
  conj_add a b := ext' rfl (neg_add _ _)
  conj_mul a b := by ext <;> simp only [mul_re, mul_im, conj_re, conj_im] <;> ring
  conj_neg a := rfl
  conj_zero := ext' rfl neg_zero
  conj_one := ext' rfl neg_zero
  conj_conj a := ext' rfl (neg_neg _)

end Cx

end Ham
end Pulser
