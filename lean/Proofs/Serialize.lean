/-
  Proofs.Serialize — helper lemmas for C04: flags elided at a default and re-inserted,
  the canonical form of a call log, expression trees through the abstract JSON shape,
  and the decidable side-conditions over the GENERATED table.
-/
import PulserModel.Serialize
namespace Pulser
namespace Serialize
open Generated.AbstractOps

/-! ### Decidable obligations over the generated table -/

/-- One row is consistent: see `C04.defaults_agree` for the clauses. -/
def rowOk (r : OpRow) : Bool :=
  -- (1) every key elided at value v is re-inserted by the decoder with the same v
  r.elided.all (fun kv => r.decOptional.contains kv)
  -- (2) every key the decoder reads without default is always emitted
  && r.decRequired.all (r.emitted.contains ·)
  -- (3) the decoder supplies a default only for keys the encoder knows
  && r.decOptional.all (fun kv => r.emitted.contains kv.1 || r.elided.any (·.1 == kv.1))
  -- (4) every emitted key is permitted by the schema, which is closed
  && (r.emitted ++ r.elided.map (·.1)).all (r.schemaProps.contains ·) && r.schemaClosed
  -- (5) every key the schema requires is always emitted
  && r.schemaRequired.all (r.emitted.contains ·)
  -- (6) every emitted key is read by the decoder (nothing is dropped)
  && (r.emitted ++ r.elided.map (·.1)).all
      (fun k => r.decRequired.contains k || r.decOptional.any (·.1 == k))
  -- (7) when decoder and encoder speak about the same method: a key carries the same argument
  --     on both sides, and it is elided at that method's own (live) default
  && (if r.calls.contains r.method then
        r.encParam.all (r.decParam.contains ·) && r.elided.all (r.methodDefaults.contains ·)
      else true)
  -- (8) the operation is known to the decoder and to the schema
  && r.method != "" && r.schemaDef != ""

def tableOk (T : List OpRow) : Bool := T.all rowOk

/-- The top-level keys of the document. -/
def topOk : Bool :=
  topSchemaRequired.all (topAlways.contains ·)
  && (topAlways ++ topConditional).all (topSchemaProps.contains ·)
  && topDecRequired.all (topAlways.contains ·)
  && topConditional.all (fun k => topDecConditional.contains k || topDecRequired.contains k)
  && topDecConditional.all (fun k => topConditional.contains k || topAlways.contains k)
  && topSchemaRequiredAny.all (fun k => topAlways.contains k || topConditional.contains k)

/-- Every stored call is handled by the encoder, every operation of the decoder / schema
can be produced. -/
def coverageOk : Bool := uncoveredCalls.isEmpty && orphanDecoderOps.isEmpty && orphanSchemaOps.isEmpty

/-- Operators of parametrized objects: what they serialise to is accepted by the decoder
and allowed by the schema — except the methods listed in `knownBroken` (empty since the repair of
finding F-C04-1). -/
def exprOk (knownBroken : List String) : Bool :=
  exprOps.all fun me =>
    knownBroken.contains me.1 ||
      (decoderExprs.contains me.2 && (schemaUnary.contains me.2 || schemaBinary.contains me.2))

/-! ### Flags -/

/-- The boolean argument `key` of operation `op` survives elision + re-insertion. -/
def flagOk (T : List OpRow) (op key : String) : Bool :=
  match encElide T op op key with
  | none => true
  | some d => decDefault T op op key == some d

theorem flag_roundtrip {T : List OpRow} {op key : String} (h : flagOk T op key = true) (v : Bool) :
    decFlag T op op key (encFlag T op op key v) = some v := by
  unfold flagOk at h
  unfold encFlag decFlag
  cases he : encElide T op op key with
  | none => rfl
  | some d =>
    rw [he] at h
    simp only at h ⊢
    by_cases hv : v = d
    · simp only [hv, if_true]
      simpa using h
    · simp only [hv, if_false]

/-- The six optional booleans of the model's op language. -/
def flagsOk (T : List OpRow) : Bool :=
  flagOk T "align" "at_rest" && flagOk T "delay" "at_rest"
  && flagOk T "add_eom_pulse" "correct_phase_drift" && flagOk T "enable_eom_mode" "correct_phase_drift"
  && flagOk T "modify_eom_setpoint" "correct_phase_drift"
  && flagOk T "disable_eom_mode" "correct_phase_drift"

/-! ### Operations -/

theorem decodeOps_append (T : List OpRow) (a b : List AbsOp) :
    decodeOps T (a ++ b) =
      match decodeOps T a, decodeOps T b with
      | some x, some y => some (x ++ y)
      | _, _ => none := by
  induction a with
  | nil => dsimp only [List.nil_append, decodeOps]; cases decodeOps T b <;> rfl
  | cons x rest ih =>
    dsimp only [List.cons_append, decodeOps]; rw [ih]
    cases decodeOp T x <;> cases decodeOps T rest <;> cases decodeOps T b <;> rfl

theorem eom_corr_restore (e : EomIn) : ({ ({ e with corr := false } : EomIn) with corr := e.corr } : EomIn) = e := by
  cases e; rfl

theorem decode_encodeOp {T : List OpRow} (h : flagsOk T = true) (op : Op) :
    decodeOps T (encodeOp T op) = some (bodyOf op) := by
  simp only [flagsOk, Bool.and_eq_true] at h
  obtain ⟨⟨⟨⟨⟨h1, h2⟩, h3⟩, h4⟩, h5⟩, h6⟩ := h
  cases op with
  | declare n id init => cases init <;> rfl
  | configDetMap id w s => rfl
  | target qs n => rfl
  | add p n proto => rfl
  | addDmm p n proto => rfl
  | addEom n dur ph po proto corr fs fe ref =>
    dsimp only [encodeOp, decodeOps, decodeOp]; rw [flag_roundtrip h3]; rfl
  | delay d n atRest =>
    dsimp only [encodeOp, decodeOps, decodeOp]; rw [flag_roundtrip h2]; rfl
  | align chs atRest =>
    dsimp only [encodeOp, decodeOps, decodeOp]; rw [flag_roundtrip h1]; rfl
  | phaseShift phi qs b => rfl
  | enableEom n e =>
    dsimp only [encodeOp, decodeOps, decodeOp]; rw [flag_roundtrip h4]; rfl
  | modifyEom n e =>
    dsimp only [encodeOp, decodeOps, decodeOp]; rw [flag_roundtrip h5]; rfl
  | disableEom n corr =>
    dsimp only [encodeOp, decodeOps, decodeOp]; rw [flag_roundtrip h6]; rfl
  | measure b => rfl
  | getDuration _ _ => rfl
  | estimate _ _ _ => rfl
  | phaseRef _ _ => rfl

theorem decode_encode_ops {T : List OpRow} (h : flagsOk T = true) (log : List Op) :
    decodeOps T (log.flatMap (encodeOp T)) = some (log.flatMap bodyOf) := by
  induction log with
  | nil => rfl
  | cons op rest ih =>
    simp only [List.flatMap_cons, decodeOps_append, decode_encodeOp h op, ih]

theorem channels_decl (log : List Op) :
    (log.filterMap channelOf).map (fun (x : ChName × Nat) => Op.declare x.1 x.2 none)
      = log.filterMap declOf := by
  rw [List.map_filterMap]
  congr 1
  funext op
  cases op <;> rfl

/-! ### Canonical form -/

/-- An op that is its own body (not a declaration, a measurement or a query). -/
def plain : Op → Bool
  | .declare .. | .measure .. | .getDuration .. | .estimate .. | .phaseRef .. => false
  | _ => true

theorem plain_parts {o : Op} (h : plain o = true) :
    declOf o = none ∧ bodyOf o = [o] ∧ ∀ acc, measStep acc o = acc := by
  cases o with
  | declare | measure | getDuration | estimate | phaseRef => cases h
  | _ => exact ⟨rfl, rfl, fun _ => rfl⟩

theorem bodyOf_plain (op : Op) : ∀ o ∈ bodyOf op, plain o = true :=
  List.all_eq_true.mp (by
    cases op with
    | declare _ _ init => cases init <;> rfl
    | _ => rfl)

theorem parts_of_plain {l : List Op} (h : ∀ o ∈ l, plain o = true) :
    l.filterMap declOf = [] ∧ l.flatMap bodyOf = l ∧ ∀ acc, l.foldl measStep acc = acc := by
  induction l with
  | nil => exact ⟨rfl, rfl, fun _ => rfl⟩
  | cons o rest ih =>
    obtain ⟨hd, hb, hm⟩ := plain_parts (h o List.mem_cons_self)
    obtain ⟨id, ib, im⟩ := ih (fun x hx => h x (List.mem_cons_of_mem _ hx))
    exact ⟨by rw [List.filterMap_cons, hd, id], by rw [List.flatMap_cons, hb, ib]; rfl,
      fun acc => by rw [List.foldl_cons, hm, im]⟩

/-- Declarations without initial target. -/
def bareDecl : Op → Bool
  | .declare _ _ none => true
  | _ => false

theorem bareDecl_parts {o : Op} (h : bareDecl o = true) :
    declOf o = some o ∧ bodyOf o = [] ∧ ∀ acc, measStep acc o = acc := by
  cases o with
  | declare n id init => cases init with | none => exact ⟨rfl, rfl, fun _ => rfl⟩ | some _ => cases h
  | _ => cases h

theorem declOf_bare (l : List Op) : ∀ o ∈ l.filterMap declOf, bareDecl o = true := by
  intro o ho
  obtain ⟨x, _, hx⟩ := List.mem_filterMap.mp ho
  cases x <;> cases hx
  rfl

theorem parts_of_bare {l : List Op} (h : ∀ o ∈ l, bareDecl o = true) :
    l.filterMap declOf = l ∧ l.flatMap bodyOf = [] ∧ ∀ acc, l.foldl measStep acc = acc := by
  induction l with
  | nil => exact ⟨rfl, rfl, fun _ => rfl⟩
  | cons o rest ih =>
    obtain ⟨hd, hb, hm⟩ := bareDecl_parts (h o List.mem_cons_self)
    obtain ⟨id, ib, im⟩ := ih (fun x hx => h x (List.mem_cons_of_mem _ hx))
    exact ⟨by rw [List.filterMap_cons, hd, id], by rw [List.flatMap_cons, hb, ib]; rfl,
      fun acc => by rw [List.foldl_cons, hm, im]⟩

def measTail : Option Basis → List Op
  | some b => [.measure b]
  | none => []

theorem canon_eq (log : List Op) :
    canon log = log.filterMap declOf ++ log.flatMap bodyOf ++ measTail (measOf log) := by
  unfold canon measTail
  cases measOf log <;> rfl

theorem canon_of_parts {D B : List Op} (m : Option Basis) (hb : ∀ o ∈ D, bareDecl o = true)
    (hp : ∀ o ∈ B, plain o = true) : canon (D ++ B ++ measTail m) = D ++ B ++ measTail m := by
  obtain ⟨dD, bD, mD⟩ := parts_of_bare hb
  obtain ⟨dB, bB, mB⟩ := parts_of_plain hp
  obtain ⟨dM, bM, mM⟩ : (measTail m).filterMap declOf = [] ∧ (measTail m).flatMap bodyOf = [] ∧
      (measTail m).foldl measStep none = m := by cases m <;> exact ⟨rfl, rfl, rfl⟩
  rw [canon_eq, measOf, List.foldl_append, List.foldl_append, mD, mB, mM, List.filterMap_append,
    List.filterMap_append, List.flatMap_append, List.flatMap_append, dD, dB, bD, bB, dM, bM,
    List.append_nil, List.append_nil, List.append_nil, List.nil_append]

theorem canon_idem (log : List Op) : canon (canon log) = canon log := by
  rw [canon_eq log]
  refine canon_of_parts _ (declOf_bare log) (fun o ho => ?_)
  obtain ⟨x, _, hx⟩ := List.mem_flatMap.mp ho
  exact bodyOf_plain x o hx

/-! ### Expressions -/

/-- Function names are distinct, none is `"neg"` (which the decoder maps to negation). -/
def NamesOk (names : FnNames) : Prop :=
  (names.map (·.2)).Nodup ∧ (∀ p ∈ names, p.2 ≠ "neg")

theorem mem_of_lookup {l : List (Nat × String)} {f : Nat} {nm : String} (h : l.lookup f = some nm) :
    (f, nm) ∈ l := by
  obtain ⟨l₁, l₂, rfl, _⟩ := List.lookup_eq_some_iff.mp h
  exact List.mem_append_right _ List.mem_cons_self

theorem fnOfName_lookup {names : FnNames} (hn : (names.map (·.2)).Nodup) {f : Nat} {nm : String}
    (h : names.lookup f = some nm) : fnOfName names nm = some f := by
  -- `(f, nm)` is the first entry named `nm`: an earlier one would repeat the name
  obtain ⟨l₁, l₂, rfl, _⟩ := List.lookup_eq_some_iff.mp h
  rw [List.map_append, List.nodup_append] at hn
  have hnone : l₁.find? (·.2 == nm) = none := List.find?_eq_none.mpr fun p hp e =>
    hn.2.2 p.2 (List.mem_map.mpr ⟨p, hp, rfl⟩) nm List.mem_cons_self (eq_of_beq e)
  simp [fnOfName, List.find?_append, hnone]

end Serialize
end Pulser
