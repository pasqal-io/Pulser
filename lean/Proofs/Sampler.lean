/-
  Proofs.Sampler — helper lemmas for C06: what the timeline invariant (C02) gives for
  the pulse instructions of a channel, and the behaviour of the rendering loops of
  `PulserModel/Sampler.lean` on such lists.
-/
import PulserModel.Sampler
import Proofs.Timeline
namespace Pulser

/-! ### Two facts about `PulserModel/Schedule.lean`

(`getDuration_false` stands here and not in Proofs/Shape.lean because `invR_slotsOk` below must share
the matcher of its statement: a `match` elaborated in another module is another constant.) -/

theorem getDuration_false (c : ChanState) :
    c.getDuration false = match c.slots.reverse with | [] => 0 | s :: _ => s.tf := by
  unfold ChanState.getDuration
  cases c.slots.reverse <;> rfl

theorem Slot.pulse?_eq_some {s : Slot} {p : PulseRec} : s.pulse? = some p ↔ s.kind = .pulse p := by
  unfold Slot.pulse?
  cases s.kind <;> simp

/-- Forward form of the timeline invariant `InvR`. -/
structure SlotsOk (l : List Slot) (dur : Int) : Prop where
  sorted : List.Pairwise (fun a b => a.tf ≤ b.ti) l
  le : ∀ a ∈ l, a.ti ≤ a.tf
  pulse : ∀ a ∈ l, ∀ p, a.kind = .pulse p → 0 ≤ a.ti ∧ a.tf = a.ti + p.dur
  bound : ∀ a ∈ l, a.tf ≤ dur

theorem SlotsOk.nil (d : Int) : SlotsOk [] d :=
  ⟨.nil, List.forall_mem_nil _, List.forall_mem_nil _, List.forall_mem_nil _⟩

theorem SlotsOk.snoc {l : List Slot} {d : Int} {s : Slot} (h : SlotsOk l d) (h1 : d ≤ s.ti)
    (h2 : s.ti ≤ s.tf) (hp : ∀ p, s.kind = .pulse p → 0 ≤ s.ti ∧ s.tf = s.ti + p.dur) :
    SlotsOk (l ++ [s]) s.tf := by
  refine ⟨List.pairwise_append.mpr ⟨h.sorted, List.pairwise_singleton _ _, fun a ha b hb => ?_⟩,
    List.forall_mem_append.mpr ⟨h.le, List.forall_mem_singleton.mpr h2⟩,
    List.forall_mem_append.mpr ⟨h.pulse, List.forall_mem_singleton.mpr hp⟩,
    List.forall_mem_append.mpr ⟨fun a ha => Int.le_trans (h.bound a ha) (Int.le_trans h1 h2),
      List.forall_mem_singleton.mpr (Int.le_refl _)⟩⟩
  rw [List.mem_singleton.mp hb]
  exact Int.le_trans (h.bound a ha) h1

/-- The timeline invariant (kept on the reversed list) read forwards: each instruction starts where
the one before it ends, so appending them one by one keeps `SlotsOk`. -/
theorem invR_slotsOk {x : Ctx} : ∀ {r : List Slot}, InvR x r →
    SlotsOk r.reverse (match r with | [] => 0 | s :: _ => s.tf) := by
  intro r h
  induction r with
  | nil => exact SlotsOk.nil 0
  | cons s r ih =>
    cases r with
    | nil =>
      obtain ⟨hk, hti, htf⟩ := h
      exact (SlotsOk.nil (-1)).snoc (Int.le_of_eq hti.symm) (by rw [hti, htf]; decide)
        (fun p hp => by rw [hk] at hp; cases hp)
    | cons prev rest =>
      obtain ⟨⟨h1, h2, _, _, h4⟩, h5⟩ := h
      rw [List.reverse_cons]
      refine (ih h5).snoc (Int.le_of_eq h1.symm) h2 fun p hp => ?_
      rw [hp] at h4
      exact ⟨h1 ▸ (InvR_head h5).2, h4.1⟩

theorem slotsOk_of_inv {ms : Option Nat} {c : ChanState} (h : ChanInv ms c) :
    SlotsOk c.slots (c.getDuration false) := by
  have := invR_slotsOk h.2
  rwa [List.reverse_reverse, ← getDuration_false] at this

theorem getDuration_nonneg {ms : Option Nat} {c : ChanState} (h : ChanInv ms c) :
    0 ≤ c.getDuration false := by
  rw [getDuration_false]
  cases hr : c.slots.reverse with
  | nil => exact Int.le_refl _
  | cons s rest =>
    have := h.2; rw [hr] at this
    exact (InvR_head this).2

theorem pulseSlotsFrom_eq : ∀ (l : List Slot) (k : Nat),
    pulseSlotsFrom k l = (l.zipIdx k).filterMap fun si => si.1.pulse?.map (⟨si.2, si.1, ·⟩)
  | [], _ => rfl
  | s :: rest, k => by
    rw [pulseSlotsFrom, pulseSlotsFrom_eq rest, List.zipIdx_cons, List.filterMap_cons, Slot.pulse?]
    cases s.kind <;> rfl

theorem mem_pulseSlotsFrom {x : PSlot} {l : List Slot} {k : Nat} :
    x ∈ pulseSlotsFrom k l ↔ (x.s, x.idx) ∈ l.zipIdx k ∧ x.s.kind = .pulse x.p := by
  rw [pulseSlotsFrom_eq, List.mem_filterMap]
  constructor
  · rintro ⟨⟨s, i⟩, hm, hx⟩
    obtain ⟨p, hp, rfl⟩ := Option.map_eq_some_iff.mp hx
    exact ⟨hm, Slot.pulse?_eq_some.mp hp⟩
  · rintro ⟨hm, hp⟩
    exact ⟨_, hm, by rw [Slot.pulse?_eq_some.mpr hp]; rfl⟩

theorem mem_pulseSlots {c : ChanState} {x : PSlot} :
    x ∈ c.pulseSlots ↔ c.slots[x.idx]? = some x.s ∧ x.s.kind = .pulse x.p := by
  rw [ChanState.pulseSlots, mem_pulseSlotsFrom, List.mk_mem_zipIdx_iff_getElem?]

theorem pulseSlotsFrom_sorted {l : List Slot} {k : Nat} (h : List.Pairwise (fun a b => a.tf ≤ b.ti) l) :
    List.Pairwise (fun a b : PSlot => a.s.tf ≤ b.s.ti) (pulseSlotsFrom k l) := by
  rw [pulseSlotsFrom_eq]
  rw [← List.zipIdx_map_fst k l, List.pairwise_map] at h
  refine h.filterMap _ fun a a' hr b hb b' hb' => ?_
  obtain ⟨_, _, rfl⟩ := Option.map_eq_some_iff.mp hb
  obtain ⟨_, _, rfl⟩ := Option.map_eq_some_iff.mp hb'
  exact hr

/-- What the rendering loops need to know about the list of pulse instructions. -/
structure PSOk (l : List PSlot) (T : Int) : Prop where
  sorted : List.Pairwise (fun a b : PSlot => a.s.tf ≤ b.s.ti) l
  nonneg : ∀ a ∈ l, 0 ≤ a.s.ti
  durEq : ∀ a ∈ l, a.s.tf = a.s.ti + a.p.dur
  bound : ∀ a ∈ l, a.s.tf ≤ T

theorem PSOk.le {l : List PSlot} {d : Int} (h : PSOk l d) : ∀ a ∈ l, a.s.ti ≤ a.s.tf := by
  intro a ha; have := h.durEq a ha; omega

theorem psOk_of_inv {ms : Option Nat} {c : ChanState} (h : ChanInv ms c) :
    PSOk c.pulseSlots (c.getDuration false) := by
  have ok := slotsOk_of_inv h
  have mem : ∀ a ∈ c.pulseSlots, a.s ∈ c.slots := fun a ha => List.mem_of_getElem? (mem_pulseSlots.mp ha).1
  have pulse := fun a ha => ok.pulse a.s (mem a ha) a.p (mem_pulseSlots.mp ha).2
  exact ⟨pulseSlotsFrom_sorted ok.sorted, fun a ha => (pulse a ha).1, fun a ha => (pulse a ha).2,
    fun a ha => ok.bound a.s (mem a ha)⟩

/-- The pulse instruction number `i` of channel `c` is `s`, holding pulse `p`. -/
abbrev IsPulseSlot (c : ChanState) (i : Nat) (s : Slot) (p : PulseRec) : Prop :=
  c.slots[i]? = some s ∧ s.kind = .pulse p

theorem IsPulseSlot.mem {c : ChanState} {i : Nat} {s : Slot} {p : PulseRec} (h : IsPulseSlot c i s p) :
    (⟨i, s, p⟩ : PSlot) ∈ c.pulseSlots := mem_pulseSlots.mpr h

theorem contribAt_none {l : List PSlot} {t : Int}
    (h : ∀ a ∈ l, ¬ (a.s.ti ≤ t ∧ t < a.s.tf)) : contribAt l t = [] :=
  List.filterMap_eq_nil_iff.mpr fun a ha => if_neg (h a ha)

theorem contribAt_unique {l : List PSlot}
    (hs : List.Pairwise (fun a b : PSlot => a.s.tf ≤ b.s.ti) l) {x : PSlot} (hx : x ∈ l)
    {t : Int} (h1 : x.s.ti ≤ t) (h2 : t < x.s.tf) : contribAt l t = [(x.idx, t - x.s.ti)] := by
  -- every pulse before `x` has ended by `t`, every pulse after it has not begun
  obtain ⟨pre, post, rfl⟩ := List.append_of_mem hx
  obtain ⟨_, hpost, hpre⟩ := List.pairwise_append.mp hs
  have e1 : contribAt pre t = [] := contribAt_none fun a ha hc =>
    Int.lt_irrefl _ (Int.lt_of_lt_of_le hc.2 (Int.le_trans (hpre a ha x List.mem_cons_self) h1))
  have e2 : contribAt post t = [] := contribAt_none fun b hb hc =>
    Int.lt_irrefl _ (Int.lt_of_lt_of_le h2 (Int.le_trans ((List.pairwise_cons.mp hpost).1 b hb) hc.1))
  unfold contribAt at e1 e2 ⊢
  rw [List.filterMap_append, List.filterMap_cons, e1, e2, if_pos ⟨h1, h2⟩]; rfl

theorem paintLoop_append (pjt : Nat) (ign : Bool) : ∀ (l₁ l₂ prevRev : List PSlot) (arr : Int → Option Nat),
    paintLoop pjt ign prevRev (l₁ ++ l₂) arr =
      paintLoop pjt ign (l₁.reverse ++ prevRev) l₂ (paintLoop pjt ign prevRev l₁ arr)
  | [], _, _, _ => rfl
  | y :: l₁, l₂, prevRev, arr => by
    rw [List.cons_append, paintLoop, paintLoop_append pjt ign l₁, List.reverse_cons, List.append_assoc]
    rfl

/-- Pulses that start at or after `b`, the end of the last pulse that counts, leave the array alone
before `b`: each paints from `max(ti − pjt, end of the last counted pulse) ≥ b` on. -/
theorem paintLoop_keep (pjt : Nat) (ign : Bool) {t b : Int} (htb : t < b) (rest prevRev : List PSlot)
    (arr : Int → Option Nat) (hprev : ∃ l, prevRev.find? (counts ign) = some l ∧ b ≤ l.s.tf)
    (hle : ∀ y ∈ rest, b ≤ y.s.ti ∧ y.s.ti ≤ y.s.tf) :
    paintLoop pjt ign prevRev rest arr t = arr t := by
  induction rest generalizing prevRev arr with
  | nil => rfl
  | cons y rest ih =>
    obtain ⟨l, hfind, hb⟩ := hprev
    have hy := hle y List.mem_cons_self
    have hle' := fun y' hy' => hle y' (List.mem_cons_of_mem _ hy')
    unfold paintLoop
    cases hc : counts ign y
    · rw [ih _ _ ⟨l, by rw [List.find?_cons, hc]; exact hfind, hb⟩ hle']
      rfl
    · rw [ih _ _ ⟨y, by rw [List.find?_cons, hc], Int.le_trans hy.1 hy.2⟩ hle']
      rw [if_pos rfl, paintFrom, tStart, hfind]
      exact if_neg (Int.not_le.mpr (Int.lt_of_lt_of_le htb (Int.le_trans hb (Int.le_max_right _ _))))

theorem paintLoop_on_pulse (pjt : Nat) (ign : Bool) {l : List PSlot}
    (hs : List.Pairwise (fun a b : PSlot => a.s.tf ≤ b.s.ti) l)
    (hwf : ∀ y ∈ l, 0 ≤ y.s.ti ∧ y.s.ti ≤ y.s.tf) {x : PSlot} (hx : x ∈ l)
    (hc : counts ign x = true) {t : Int} (h1 : x.s.ti ≤ t) (h2 : t < x.s.tf)
    (arr : Int → Option Nat) : paintLoop pjt ign [] l arr t = some x.idx := by
  obtain ⟨pre, post, rfl⟩ := List.append_of_mem hx
  obtain ⟨_, hpost, hpre⟩ := List.pairwise_append.mp hs
  rw [paintLoop_append, paintLoop,
    paintLoop_keep pjt ign h2 post _ _ ⟨x, by rw [List.find?_cons, hc], Int.le_refl _⟩
      fun y hy => ⟨(List.pairwise_cons.mp hpost).1 y hy,
        (hwf y (List.mem_append_right _ (List.mem_cons_of_mem _ hy))).2⟩,
    if_pos hc, paintFrom, if_pos]
  -- `t_start ≤ ti`: the look-back finds a pulse that ended before `x`, or nothing
  unfold tStart
  split
  · rename_i l hf
    have := List.mem_of_find?_eq_some hf
    rw [List.append_nil, List.mem_reverse] at this
    exact Int.max_le.mpr ⟨by omega, Int.le_trans (hpre l this x List.mem_cons_self) h1⟩
  · exact Int.le_trans (hwf x hx).1 h1

theorem counts_eq_true {ign : Bool} {x : PSlot} :
    counts ign x = true ↔ ¬ (ign = true ∧ x.p.dd = true) := by
  rw [counts, Bool.not_eq_true', ← Bool.not_eq_true, Bool.and_eq_true]

theorem paintLoop_none (pjt : Nat) (ign : Bool) (t : Int) (rest prevRev : List PSlot)
    (arr : Int → Option Nat) (h : ∀ y ∈ rest, counts ign y = false) :
    paintLoop pjt ign prevRev rest arr t = arr t := by
  induction rest generalizing prevRev arr with
  | nil => rfl
  | cons y rest ih =>
    rw [paintLoop, ih _ _ fun y' hy' => h y' (List.mem_cons_of_mem _ hy'), h y List.mem_cons_self]
    rfl

/-! ### Pulse target slots (`ChannelSamples.slots`) -/

/-- The end of the `_PulseTargetSlot` of `a` when the later pulses are `rest`. -/
def extTf (c : ChanState) (a : PSlot) : List PSlot → Int
  | [] => a.s.tf + (a.p.fall (c.inEomAt a.s.ti) : Nat)
  | y :: _ => a.s.tf + min ((a.p.fall (c.inEomAt a.s.ti) : Nat) : Int) (y.s.ti - a.s.tf)

theorem ptSlotsAux_cons (c : ChanState) (a : PSlot) (rest : List PSlot) :
    ptSlotsAux c (a :: rest) = ⟨a.s.ti, extTf c a rest, a.s.targets⟩ :: ptSlotsAux c rest := by
  cases rest <;> rfl

/-- `t` lies below the end `hi` of a slice (`None` = to the end of the arrays). -/
def inHi (hi : Option Int) (t : Int) : Prop :=
  match hi with
  | some h => t < h
  | none => True

theorem inHi_ite {o : Bool} {h t : Int} : inHi (if o then none else some h) t ↔ o = true ∨ t < h := by
  cases o
  · exact ⟨.inr, fun h => h.resolve_left Bool.false_ne_true⟩
  · exact ⟨fun _ => .inl rfl, fun _ => trivial⟩

/-- The slice of `a` when the later pulses are `rest` covers the pulse and ends before every later
pulse: the fall time is cut at the next pulse, and only the last slice can be open-ended. -/
theorem inHi_window (c : ChanState) (o : Bool) {a : PSlot} {rest : List PSlot}
    (hsort : List.Pairwise (fun a b : PSlot => a.s.tf ≤ b.s.ti) (a :: rest))
    (hle : ∀ y ∈ rest, y.s.ti ≤ y.s.tf) (t : Int) :
    (t < a.s.tf → inHi (if rest.isEmpty && o then none else some (extTf c a rest)) t) ∧
    ∀ y ∈ rest, inHi (if rest.isEmpty && o then none else some (extTf c a rest)) t → t < y.s.ti := by
  obtain ⟨h1, h2⟩ := List.pairwise_cons.mp hsort
  cases rest with
  | nil =>
    exact ⟨fun h => inHi_ite.mpr (.inr (Int.lt_of_lt_of_le h
      (Int.le_add_of_nonneg_right (Int.natCast_nonneg _)))), fun _ hy => nomatch hy⟩
  | cons y0 rest' =>
    have h0 := h1 y0 List.mem_cons_self
    have hext : a.s.tf ≤ extTf c a (y0 :: rest') ∧ extTf c a (y0 :: rest') ≤ y0.s.ti :=
      ⟨Int.le_add_of_nonneg_right (Int.le_min.mpr ⟨Int.natCast_nonneg _, Int.sub_nonneg_of_le h0⟩),
        Int.add_le_of_le_sub_left (Int.min_le_right _ _)⟩
    refine ⟨fun h => show t < extTf c a _ from Int.lt_of_lt_of_le h hext.1,
      fun y hy (e : t < extTf c a _) => Int.lt_of_lt_of_le e (Int.le_trans hext.2 ?_)⟩
    rcases List.mem_cons.mp hy with rfl | hy
    · exact Int.le_refl _
    · exact Int.le_trans (hle y0 List.mem_cons_self) ((List.pairwise_cons.mp h2).1 y hy)

theorem ptSlotsAux_ti (c : ChanState) {l : List PSlot} {s : PTSlot} (h : s ∈ ptSlotsAux c l) :
    ∃ y ∈ l, s.ti = y.s.ti := by
  induction l with
  | nil => cases h
  | cons a rest ih =>
    rw [ptSlotsAux_cons] at h
    rcases List.mem_cons.mp h with rfl | h
    · exact ⟨a, List.mem_cons_self, rfl⟩
    · obtain ⟨y, hy, e⟩ := ih h
      exact ⟨y, List.mem_cons_of_mem _ hy, e⟩

theorem slotWindows_cons (o : Bool) (s : PTSlot) (l : List PTSlot) :
    slotWindows o (s :: l) = (s, if l.isEmpty && o then none else some s.tf) :: slotWindows o l := by
  cases l with
  | nil => cases o <;> rfl
  | cons a r => rfl

theorem mem_slotWindows {o : Bool} {l : List PTSlot} {sw : PTSlot × Option Int}
    (h : sw ∈ slotWindows o l) : sw.1 ∈ l := by
  induction l with
  | nil => cases h
  | cons s l ih =>
    rw [slotWindows_cons] at h
    rcases List.mem_cons.mp h with rfl | h
    · exact List.mem_cons_self
    · exact List.mem_cons_of_mem _ (ih h)

theorem ptSlotsAux_isEmpty (c : ChanState) (l : List PSlot) : (ptSlotsAux c l).isEmpty = l.isEmpty := by
  cases l with
  | nil => rfl
  | cons a r => rw [ptSlotsAux_cons]; rfl

/-- The only slice of the per-qubit loop of `to_nested_dict` that contains a time inside pulse `x`
is the one of the slot of `x` — also when the last slice is open-ended (channel left in EOM mode). -/
theorem slotWindows_window (c : ChanState) (o : Bool) {x : PSlot} {t : Int} (h1 : x.s.ti ≤ t)
    (h2 : t < x.s.tf) {l : List PSlot} (hsort : List.Pairwise (fun a b : PSlot => a.s.tf ≤ b.s.ti) l)
    (hle : ∀ y ∈ l, y.s.ti ≤ y.s.tf) (hx : x ∈ l) :
    (∀ sw ∈ slotWindows o (ptSlotsAux c l), sw.1.ti ≤ t → inHi sw.2 t →
      sw.1.ti = x.s.ti ∧ sw.1.targets = x.s.targets) ∧
    (∃ sw ∈ slotWindows o (ptSlotsAux c l), sw.1.ti = x.s.ti ∧ sw.1.targets = x.s.targets ∧ inHi sw.2 t) := by
  induction l with
  | nil => cases hx
  | cons a rest ih =>
    rw [ptSlotsAux_cons, slotWindows_cons, ptSlotsAux_isEmpty]
    obtain ⟨hs1, hs2⟩ := List.pairwise_cons.mp hsort
    have hle' : ∀ y ∈ rest, y.s.ti ≤ y.s.tf := fun y hy => hle y (List.mem_cons_of_mem _ hy)
    obtain ⟨b1, b2⟩ := inHi_window c o hsort hle' t
    rcases List.mem_cons.mp hx with rfl | hxr
    · refine ⟨fun sw hs e1 e2 => ?_, _, List.mem_cons_self, rfl, rfl, b1 h2⟩
      rcases List.mem_cons.mp hs with rfl | hs
      · exact ⟨rfl, rfl⟩
      · -- a later slice starts after `x` has ended
        obtain ⟨y, hy, e⟩ := ptSlotsAux_ti c (mem_slotWindows hs)
        exact absurd (Int.lt_of_lt_of_le h2 (Int.le_trans (hs1 y hy) (e ▸ e1))) (Int.lt_irrefl _)
    · obtain ⟨ih1, sw, hs, ih2⟩ := ih hs2 hle' hxr
      refine ⟨fun sw' hs' e1 e2 => ?_, sw, List.mem_cons_of_mem _ hs, ih2⟩
      rcases List.mem_cons.mp hs' with rfl | hs'
      · -- the slice of `a` ends before `x` begins
        exact absurd (Int.lt_of_lt_of_le (b2 x hxr e2) h1) (Int.lt_irrefl _)
      · exact ih1 sw' hs' e1 e2

theorem slotWindows_false : ∀ (l : List PTSlot), slotWindows false l = l.map fun s => (s, some s.tf)
  | [] => rfl
  | s :: l => by rw [slotWindows_cons, slotWindows_false l, Bool.and_false]; rfl

theorem slotWindows_concat (o : Bool) (pre : List PTSlot) (last : PTSlot) :
    slotWindows o (pre ++ [last]) =
      pre.map (fun s => (s, some s.tf)) ++ [(last, if o then none else some last.tf)] := by
  induction pre with
  | nil => rfl
  | cons a r ih =>
    have : (r ++ [last]).isEmpty = false := by cases r <;> rfl
    rw [List.cons_append, slotWindows_cons, ih, this]; rfl

/-- The only pulse-target slot whose window contains a time inside pulse `x` is the slot of `x`. -/
theorem ptSlots_window (c : ChanState) {x : PSlot} {t : Int} (h1 : x.s.ti ≤ t) (h2 : t < x.s.tf) :
    ∀ {l : List PSlot}, List.Pairwise (fun a b : PSlot => a.s.tf ≤ b.s.ti) l →
      (∀ y ∈ l, y.s.ti ≤ y.s.tf) → x ∈ l →
      (∀ s ∈ ptSlotsAux c l, s.ti ≤ t → t < s.tf → s.ti = x.s.ti ∧ s.targets = x.s.targets) ∧
      (∃ s ∈ ptSlotsAux c l, s.ti = x.s.ti ∧ s.targets = x.s.targets ∧ t < s.tf) := by
  intro l hsort hle hx
  have h := slotWindows_window c false h1 h2 hsort hle hx
  rw [slotWindows_false] at h
  obtain ⟨hA, sw, hsw, hB⟩ := h
  obtain ⟨s, hs, rfl⟩ := List.mem_map.mp hsw
  exact ⟨fun s' hs' => hA (s', some s'.tf) (List.mem_map.mpr ⟨s', hs', rfl⟩), s, hs, hB⟩

/-! ### `extend_duration` -/

theorem extendDuration_lt {cs : ChanSamples} {n : Int} (h : n < cs.duration) : extendDuration cs n = none := by
  unfold extendDuration
  exact if_pos (by omega)

theorem extendDuration_add (cs : ChanSamples) (k : Nat) :
    extendDuration cs (cs.duration + k) = some { cs with
      amp := cs.amp ++ List.replicate k [],
      det := cs.det ++ List.replicate k ⟨[], cs.openDetOff.getD 0⟩,
      phase := cs.phase ++ List.replicate k (cs.phase.getLast?.getD none) } := by
  have hk : (cs.duration : Int) + k - cs.duration = k := Int.sub_eq_iff_eq_add'.mpr rfl
  unfold extendDuration
  simp only [hk]
  rw [if_neg (Int.not_lt.mpr (Int.natCast_nonneg k)), Int.toNat_natCast]
  cases cs.openDetOff <;> rfl

/-! ### `to_nested_dict`: which statements reach an entry -/

theorem hits_eq_some {i : NInstr} {b : Basis} {q : Option Nat} {t : Int} {k : Nat} {w : Rat} :
    i.hits b q t = some (k, w) ↔ ∃ lo hi, i = .add b q k lo hi w ∧ lo ≤ t ∧ inHi hi t := by
  cases i with
  | touch b' q' => exact ⟨fun h => (by cases h), fun ⟨_, _, h, _⟩ => (by cases h)⟩
  | add b' q' k' lo hi w' =>
    have key : (NInstr.add b' q' k' lo hi w').hits b q t = some (k, w) ↔
        (b' = b ∧ q' = q ∧ lo ≤ t ∧ inHi hi t) ∧ k' = k ∧ w' = w := by
      cases hi <;>
        simp only [NInstr.hits, inHi, and_true, Option.ite_none_right_eq_some, Option.some.injEq, Prod.mk.injEq]
    rw [key]
    constructor
    · rintro ⟨⟨rfl, rfl, h1, h2⟩, rfl, rfl⟩; exact ⟨lo, hi, rfl, h1, h2⟩
    · rintro ⟨_, _, e, h1, h2⟩; cases e; exact ⟨⟨rfl, rfl, h1, h2⟩, rfl, rfl⟩

theorem mem_attribAt {instrs : List NInstr} {b : Basis} {q : Option Nat} {t : Int} {k : Nat} {w : Rat} :
    (k, w) ∈ attribAt instrs b q t ↔ ∃ lo hi, .add b q k lo hi w ∈ instrs ∧ lo ≤ t ∧ inHi hi t := by
  rw [attribAt, List.mem_filterMap]
  constructor
  · rintro ⟨i, hi, hh⟩
    obtain ⟨lo, hi', rfl, h⟩ := hits_eq_some.mp hh
    exact ⟨lo, hi', hi, h⟩
  · rintro ⟨lo, hi, hm, h⟩
    exact ⟨_, hm, hits_eq_some.mpr ⟨lo, hi, rfl, h⟩⟩

/-- Global branch: the channel's samples go to `d["Global"][basis]` from `start_t` on and, before
a non-zero `start_t` (XY mode with an SLM mask), to the `Local` entries of the unmasked targets
of the first pulse. -/
theorem mem_attrib_global {allLocal : Bool} {m : SlmMask} {k : Nat} {v : ChanView}
    (hb : v.globalBranch allLocal = true) {b : Basis} {qo : Option Nat} {t : Int} {k' : Nat} {w : Rat} :
    (k', w) ∈ attribAt (chanInstrs allLocal m k v) b qo t ↔
      k' = k ∧ b = v.basis ∧ w = 1 ∧
      match qo with
      | none => startT m v ≤ t
      | some q => startT m v ≠ 0 ∧ 0 ≤ t ∧ t < startT m v ∧
          (∃ s0, v.slots.head? = some s0 ∧ q ∈ s0.targets) ∧ m.targets.contains q = false := by
  rw [mem_attribAt, chanInstrs, if_pos hb]
  simp only [List.mem_cons, List.mem_ite_nil_left]
  constructor
  · rintro ⟨lo, hi, e | ⟨hz, hm⟩, h1, h2⟩
    · cases e; exact ⟨rfl, rfl, rfl, h1⟩
    · cases hs0 : v.slots.head? with
      | none => rw [hs0] at hm; cases hm
      | some s0 =>
        rw [hs0] at hm
        obtain ⟨q, hq, e⟩ := List.mem_map.mp hm
        cases e
        obtain ⟨hq1, hq2⟩ := List.mem_filter.mp hq
        exact ⟨rfl, rfl, rfl, hz, h1, h2, ⟨s0, rfl, List.mem_eraseDups.mp hq1⟩, (Bool.not_eq_true' _).mp hq2⟩
  · rintro ⟨rfl, rfl, rfl, h⟩
    cases qo with
    | none => exact ⟨_, none, .inl rfl, h, trivial⟩
    | some q =>
      obtain ⟨hne, e3, e4, ⟨s0, hs0, hq⟩, hm⟩ := h
      refine ⟨0, some (startT m v), .inr ⟨hne, ?_⟩, e3, e4⟩
      rw [hs0]
      exact List.mem_map.mpr
        ⟨q, List.mem_filter.mpr ⟨List.mem_eraseDups.mpr hq, (Bool.not_eq_true' _).mpr hm⟩, rfl⟩

/-- Local branch (`Local` channel, DMM, or `all_local`): a statement of channel `k` reaches
`(b, q)` at `t` exactly when some pulse-target slot that targets `q` has `t` in its slice
(started at the mask end for a masked atom in XY mode; open-ended for the last slot of a
channel left in EOM mode) — or, for a channel without pulses that is left in EOM mode, when
`q` is one of its last targets.  Nothing goes to the `Global` entry. -/
theorem mem_attrib_local {allLocal : Bool} {m : SlmMask} {k : Nat} {v : ChanView}
    (hb : v.globalBranch allLocal = false) {b : Basis} {qo : Option Nat} {t : Int} {k' : Nat} {w : Rat} :
    (k', w) ∈ attribAt (chanInstrs allLocal m k v) b qo t ↔
      k' = k ∧ b = v.basis ∧ ∃ q, qo = some q ∧ w = v.weight q ∧
      ((∃ sw ∈ slotWindows v.openEom v.slots, q ∈ sw.1.targets ∧
          (if v.basis == .xy && m.targets.contains q then max sw.1.ti m.end_ else sw.1.ti) ≤ t ∧
          inHi sw.2 t) ∨
       (v.slots.isEmpty = true ∧ v.openEom = true ∧ q ∈ v.lastTargets ∧ 0 ≤ t)) := by
  rw [mem_attribAt, chanInstrs, if_neg (by rw [hb]; exact Bool.false_ne_true)]
  simp only [List.mem_append, List.mem_flatMap, List.mem_map, List.mem_eraseDups, List.mem_ite_nil_right]
  constructor
  · rintro ⟨lo, hi, (⟨he, ⟨_, _, e⟩ | ⟨ho, q, hq, e⟩⟩ | ⟨sw, hs, q, hq, e⟩), h1, h2⟩
    · cases e
    · cases e; exact ⟨rfl, rfl, q, rfl, rfl, .inr ⟨he, ho, hq, h1⟩⟩
    · cases e; exact ⟨rfl, rfl, q, rfl, rfl, .inl ⟨sw, hs, hq, h1, h2⟩⟩
  · rintro ⟨rfl, rfl, q, rfl, rfl, ⟨sw, hs, hq, h1, h2⟩ | ⟨he, ho, hq, h1⟩⟩
    · exact ⟨_, _, .inr ⟨sw, hs, q, hq, rfl⟩, h1, h2⟩
    · exact ⟨0, none, .inl ⟨he, .inr ⟨ho, q, hq, rfl⟩⟩, h1, trivial⟩

theorem attrib_local_iff {allLocal : Bool} {m : SlmMask} {k : Nat} {v : ChanView}
    (hb : v.globalBranch allLocal = false) (hne : v.slots.isEmpty = false) (q : Nat) (t : Int) :
    (∃ w, (k, w) ∈ attribAt (chanInstrs allLocal m k v) v.basis (some q) t) ↔
      (∃ sw ∈ slotWindows v.openEom v.slots, q ∈ sw.1.targets ∧ sw.1.ti ≤ t ∧ inHi sw.2 t) ∧
      ¬ (v.basis = .xy ∧ q ∈ m.targets ∧ t < m.end_) := by
  -- `ti = max(ti, mask end)` for a masked atom
  have hlo : ∀ ti : Int, (if v.basis == .xy && m.targets.contains q then max ti m.end_ else ti) ≤ t ↔
      ti ≤ t ∧ ¬ (v.basis = .xy ∧ q ∈ m.targets ∧ t < m.end_) := by
    intro ti
    have hcond : (v.basis == .xy && m.targets.contains q) = true ↔ v.basis = .xy ∧ q ∈ m.targets := by
      rw [Bool.and_eq_true, beq_iff_eq, List.contains_iff_mem]
    by_cases hc : (v.basis == .xy && m.targets.contains q) = true
    · rw [if_pos hc, Int.max_le]
      exact and_congr_right fun _ => ⟨fun h hn => Int.not_lt.mpr h hn.2.2,
        fun hn => Int.not_lt.mp fun hlt => hn ⟨(hcond.mp hc).1, (hcond.mp hc).2, hlt⟩⟩
    · rw [if_neg hc]
      exact ⟨fun h => ⟨h, fun hn => hc (hcond.mpr ⟨hn.1, hn.2.1⟩)⟩, And.left⟩
  constructor
  · rintro ⟨w, hw⟩
    obtain ⟨_, _, _, e, _, ⟨sw, hs, hq, e1, e2⟩ | ⟨he, _⟩⟩ := (mem_attrib_local hb).mp hw
    · cases e
      exact ⟨⟨sw, hs, hq, ((hlo _).mp e1).1, e2⟩, ((hlo _).mp e1).2⟩
    · rw [hne] at he; cases he
  · rintro ⟨⟨sw, hs, hq, e1, e2⟩, hmask⟩
    exact ⟨_, (mem_attrib_local hb).mpr ⟨rfl, rfl, q, rfl, rfl, .inl ⟨sw, hs, hq, (hlo _).mpr ⟨e1, hmask⟩, e2⟩⟩⟩

theorem attribAt_chan {allLocal : Bool} {m : SlmMask} {k : Nat} {v : ChanView} {b : Basis}
    {qo : Option Nat} {t : Int} {k' : Nat} {w : Rat}
    (h : (k', w) ∈ attribAt (chanInstrs allLocal m k v) b qo t) : k' = k := by
  cases hb : v.globalBranch allLocal
  · exact ((mem_attrib_local hb).mp h).1
  · exact ((mem_attrib_global hb).mp h).1

theorem nestedInstrsFrom_eq (allLocal : Bool) (m : SlmMask) : ∀ (views : List ChanView) (k : Nat),
    nestedInstrsFrom allLocal m k views = (views.zipIdx k).flatMap fun vj => chanInstrs allLocal m vj.2 vj.1
  | [], _ => rfl
  | v :: rest, k => by
    rw [nestedInstrsFrom, nestedInstrsFrom_eq allLocal m rest, List.zipIdx_cons, List.flatMap_cons]

theorem mem_nestedInstrs {allLocal : Bool} {m : SlmMask} {i : NInstr} {views : List ChanView} :
    i ∈ nestedInstrs allLocal m views ↔ ∃ j v, views[j]? = some v ∧ i ∈ chanInstrs allLocal m j v := by
  rw [nestedInstrs, nestedInstrsFrom_eq, List.mem_flatMap]
  constructor
  · rintro ⟨⟨v, j⟩, hm, hi⟩
    exact ⟨j, v, List.mk_mem_zipIdx_iff_getElem?.mp hm, hi⟩
  · rintro ⟨j, v, hm, hi⟩
    exact ⟨(v, j), List.mk_mem_zipIdx_iff_getElem?.mpr hm, hi⟩

/-! ### The phase rule of `_add_channel_samples` -/

theorem phaseStep_true (on : Nat → Bool) (acc : List Nat) (k : Nat) :
    phaseStep on (acc, true) k = (acc ++ [k].filter on, true) := by
  cases hk : on k <;> simp [phaseStep, mergePhase, hk]

theorem phaseStep_false (on : Nat → Bool) (acc : List Nat) (k : Nat) :
    phaseStep on (acc, false) k = if on k then ([k], true) else (acc ++ [k], false) := by
  cases hk : on k <;> simp [phaseStep, mergePhase, hk]

theorem foldl_phaseStep_true (on : Nat → Bool) (ws acc : List Nat) :
    ws.foldl (phaseStep on) (acc, true) = (acc ++ ws.filter on, true) := by
  induction ws generalizing acc with
  | nil => simp
  | cons k rest ih =>
    rw [List.foldl_cons, phaseStep_true, ih, List.append_assoc, ← List.filter_append,
      List.singleton_append]

theorem foldl_phaseStep_false (on : Nat → Bool) (ws acc : List Nat) :
    ws.foldl (phaseStep on) (acc, false) =
      if ws.any on then (ws.filter on, true) else (acc ++ ws, false) := by
  induction ws generalizing acc with
  | nil => simp
  | cons k rest ih =>
    rw [List.foldl_cons, phaseStep_false]
    cases hk : on k
    · simp [ih, hk]
    · simp [foldl_phaseStep_true on rest, hk]

theorem entryPhase_eq (on : Nat → Bool) (ws : List Nat) :
    entryPhase on ws = if ws.any on then (ws.filter on, true) else (ws, false) := by
  rw [entryPhase, foldl_phaseStep_false, List.nil_append]

theorem entryPhase_single (on : Nat → Bool) (pre post : List Nat) (k0 : Nat) (hk0 : on k0 = true)
    (hpre : ∀ k ∈ pre, on k = false) (hpost : ∀ k ∈ post, on k = false) :
    entryPhase on (pre ++ k0 :: post) = ([k0], true) := by
  have h1 : pre.filter on = [] := List.filter_eq_nil_iff.mpr fun k hk => by simp [hpre k hk]
  have h2 : post.filter on = [] := List.filter_eq_nil_iff.mpr fun k hk => by simp [hpost k hk]
  rw [entryPhase_eq, if_pos (by simp [hk0]), List.filter_append, List.filter_cons_of_pos hk0, h1, h2]
  rfl

end Pulser
