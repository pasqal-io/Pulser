/-
  Proofs.Same — what the calls leave alone, as far as the store-time checks of a parametrized
  sequence read it.  `Same s s'`: device, register size, XY flag, measurement, addressed bases, and of
  each channel its name, configuration, DMM weights, device id and EOM mode (`esig`) are as they
  were; `SameX`: the same without the EOM mode (`sigX`).  Every primitive of width
  `slots` keeps `Same`, every primitive short of a declaration or a measurement keeps `SameX`; so do
  the calls (`stepRaw_same`, `stepRaw_sameX`).  Used for the store-time bookkeeping of a parametrized
  sequence (C08, Proofs/ParamStore.lean) and for the addressed bases (`BasesOk`, Proofs/RefsInv.lean).
-/
import Proofs.Steps
namespace Pulser
namespace Param

/-- What is read off a channel table entry by the store-time checks. -/
def esig (c : ChanState) : ChName × ChanCfg × Rat × Rat × Nat × Bool :=
  (c.name, c.cfg, c.maxW, c.sumW, c.chId, c.inEomMode)

theorem _root_.Pulser.OnlySlots.esig {c c' : ChanState} (h : OnlySlots c c') : esig c' = esig c := by
  rw [h]; rfl

/-! ### Everything the store-time bookkeeping looks at, and the calls that leave it alone -/

structure Same (s s' : SeqState) : Prop where
  nQ : s'.nQ = s.nQ
  dev : s'.dev = s.dev
  inXY : s'.inXY = s.inXY
  measured : s'.measured = s.measured
  bases : s'.refs.map (·.1) = s.refs.map (·.1)
  chans : s'.chans.map esig = s.chans.map esig

theorem Same.rfl' (s : SeqState) : Same s s := ⟨rfl, rfl, rfl, rfl, rfl, rfl⟩
theorem Same.trans {a b c : SeqState} (h1 : Same a b) (h2 : Same b c) : Same a c :=
  ⟨h2.nQ.trans h1.nQ, h2.dev.trans h1.dev, h2.inXY.trans h1.inXY, h2.measured.trans h1.measured,
   h2.bases.trans h1.bases, h2.chans.trans h1.chans⟩

theorem setRefs_bases (s : SeqState) (b : Basis) (l : List QRef) :
    (s.setRefs b l).refs.map (·.1) = s.refs.map (·.1) := by
  unfold SeqState.setRefs
  simp only [List.map_map]
  apply List.map_congr_left
  intro x _
  simp only [Function.comp]
  split
  · rename_i h; have h2 : x.1 = b := by simpa using h
    exact h2.symm
  · rfl

theorem setChan_same {s : SeqState} {n : ChName} {c c' : ChanState} (hc : s.getChan n = some c)
    (hk : OnlySlots c c') : Same s (s.setChan c') :=
  ⟨rfl, rfl, rfl, rfl, rfl, setChan_map esig hc (by rw [hk]) hk.esig⟩

theorem _root_.Pulser.ChanPrim.keep {ms : Option Nat} {nQ : Nat} {c c' : ChanState} (h : ChanPrim ms nQ .slots c c') :
    OnlySlots c c' := by
  cases h with
  | target qs => exact addTarget_onlySlots ms c qs
  | wait h => exact (waitForFall_wait h).frame
  | delay h => exact addDelay_onlySlots h
  | pulse _ ha => exact addPulse_onlySlots ha
  | enable hw => exact absurd rfl hw
  | disable hw => exact absurd rfl hw

theorem mapRefs_same (s : SeqState) (b : Basis) (qs : List Nat) (f : QRef → QRef) :
    Same s (s.mapRefs b qs f) := by
  unfold SeqState.mapRefs
  cases s.getRefs b with
  | none => exact Same.rfl' s
  | some l => exact ⟨rfl, rfl, rfl, rfl, setRefs_bases s b _, rfl⟩

theorem _root_.Pulser.Prim.same {s s' : SeqState} (h : Prim .slots s s') : Same s s' := by
  cases h with
  | chan hc h => exact setChan_same hc h.keep
  | shift | used => exact mapRefs_same ..
  | nonEmpty => exact ⟨rfl, rfl, rfl, rfl, rfl, rfl⟩
  | declare hw => cases hw
  | measure hw => cases hw

theorem _root_.Pulser.Steps.same {s s' : SeqState} (h : Steps (Prim .slots) s s') : Same s s' :=
  Steps.keeps (I := Same s) (fun hp hi => hi.trans hp.same) h (Same.rfl' s)

theorem Same.store {s : SeqState} {r : Raw} (op : Op) (h : Same s r.st) : Same s (store op r).st := by
  unfold Pulser.store
  cases he : r.err with
  | none => exact ⟨h.nQ, h.dev, h.inXY, h.measured, h.bases, h.chans⟩
  | some e => exact h

theorem stepRaw_same {s : SeqState} {op : Op} (h : op.width = .slots) : Same s (stepRaw s op).st := by
  rcases stepRaw_shape s op with ⟨_, hst⟩ | ⟨_, op', ⟨body, e, hv⟩, _⟩
  · rw [hst]; exact Same.rfl' s
  · rw [e]; rw [h] at hv; exact Same.store _ hv.same

/-! ### The EOM calls: the channel table keeps its static part, the mode of one channel flips -/

/-- Static part of a channel: what every channel operation leaves alone, the EOM ones included. -/
def sigX (c : ChanState) : ChName × ChanCfg × Rat × Rat × Nat := (c.name, c.cfg, c.maxW, c.sumW, c.chId)

theorem sigX_cfg {c c0 : ChanState} (h : sigX c = sigX c0) : c.cfg = c0.cfg := by
  unfold sigX at h; simp only [Prod.mk.injEq] at h; exact h.2.1

theorem _root_.Pulser.OnlySlots.sigX {c c' : ChanState} (h : OnlySlots c c') : sigX c' = sigX c := by
  rw [h]; rfl

/-- Result of a channel operation: static part kept; when it succeeds, the EOM mode is `b`. -/
def Sets (b : Bool) (c : ChanState) (r : CRes) : Prop :=
  sigX r.c = sigX c ∧ (r.err = none → r.c.inEomMode = b)

theorem getLast_append_one {α : Type} (l : List α) (x : α) : (l ++ [x]).getLast? = some x :=
  List.getLast?_concat

theorem enableEom_sets (ms : Option Nat) (c : ChanState) (amp detOn detOff : Rat) (sb sw : Bool) :
    Sets true c (enableEom ms c amp detOn detOff sb sw) := by
  obtain ⟨c1, c2, w1, w2, h⟩ := enableEom_shape ms c amp detOn detOff sb sw
  have hk : OnlySlots c c2 := w1.frame.trans w2.frame
  unfold Sets
  rcases h with ⟨h, he⟩ | ⟨last, _, h⟩
  · rw [h]; exact ⟨hk.sigX, fun h0 => absurd h0 he⟩
  · rw [h]; exact ⟨hk.sigX, fun _ => by simp [ChanState.inEomMode]⟩

theorem disableEom_sets (ms : Option Nat) (c : ChanState) (sb : Bool) :
    Sets false c (disableEom ms c sb) := by
  unfold Sets
  rcases disableEom_shape ms c sb with ⟨h, he⟩ | ⟨last, _, w⟩
  · rw [h]; exact ⟨rfl, fun h0 => absurd h0 he⟩
  · rw [w.frame]
    exact ⟨rfl, fun _ => closeLastBlock_mode c.eom last.tf⟩

theorem find_map {β : Type} (g : ChanState → ChName × β) (hname : ∀ c, (g c).1 = c.name)
    {l l' : List ChanState} (h : l'.map g = l.map g) (m : ChName) :
    (l'.find? (·.name == m)).map g = (l.find? (·.name == m)).map g := by
  have e : (fun c : ChanState => c.name == m) = (fun x => x.1 == m) ∘ g := by
    funext c; simp only [Function.comp, hname]
  rw [e, ← List.find?_map, ← List.find?_map, h]

theorem esig_sigX {l l' : List ChanState} (h : l'.map esig = l.map esig) : l'.map sigX = l.map sigX := by
  have : sigX = (fun p : ChName × ChanCfg × Rat × Rat × Nat × Bool => (p.1, p.2.1, p.2.2.1, p.2.2.2.1, p.2.2.2.2.1)) ∘ esig := rfl
  rw [this, ← List.map_map, ← List.map_map, h]

/-- The static part of the state an EOM call keeps. -/
structure SameX (s s' : SeqState) : Prop where
  nQ : s'.nQ = s.nQ
  dev : s'.dev = s.dev
  inXY : s'.inXY = s.inXY
  measured : s'.measured = s.measured
  bases : s'.refs.map (·.1) = s.refs.map (·.1)
  chans : s'.chans.map sigX = s.chans.map sigX

theorem Same.toX {s s' : SeqState} (h : Same s s') : SameX s s' :=
  ⟨h.nQ, h.dev, h.inXY, h.measured, h.bases, esig_sigX h.chans⟩
theorem SameX.rfl' (s : SeqState) : SameX s s := ⟨rfl, rfl, rfl, rfl, rfl, rfl⟩
theorem SameX.trans {a b c : SeqState} (h1 : SameX a b) (h2 : SameX b c) : SameX a c :=
  ⟨h2.nQ.trans h1.nQ, h2.dev.trans h1.dev, h2.inXY.trans h1.inXY, h2.measured.trans h1.measured,
   h2.bases.trans h1.bases, h2.chans.trans h1.chans⟩

/-- EOM mode of the channel named `m` (`none`: not declared). -/
def modeOf (s : SeqState) (m : ChName) : Option Bool := (s.getChan m).map (·.inEomMode)
def sigOf (s : SeqState) (m : ChName) : Option (ChName × ChanCfg × Rat × Rat × Nat) := (s.getChan m).map sigX

theorem Same.modeOf {s s' : SeqState} (h : Same s s') (m : ChName) : modeOf s' m = modeOf s m := by
  have := find_map esig (fun _ => rfl) h.chans m
  unfold Param.modeOf SeqState.getChan
  have e : (fun c : ChanState => c.inEomMode) = (fun p : ChName × ChanCfg × Rat × Rat × Nat × Bool => p.2.2.2.2.2) ∘ esig := rfl
  rw [e, ← Option.map_map, ← Option.map_map, this]

theorem SameX.sigOf {s s' : SeqState} (h : SameX s s') (m : ChName) : sigOf s' m = sigOf s m :=
  find_map sigX (fun _ => rfl) h.chans m

theorem setChan_sameX {s : SeqState} {n : ChName} {c c' : ChanState} (hc : s.getChan n = some c)
    (hk : sigX c' = sigX c) : SameX s (s.setChan c') :=
  ⟨rfl, rfl, rfl, rfl, rfl, setChan_map sigX hc (congrArg Prod.fst hk) hk⟩

theorem _root_.Pulser.ChanPrim.keepX {ms : Option Nat} {nQ : Nat} {w : Width} {c c' : ChanState}
    (h : ChanPrim ms nQ w c c') : sigX c' = sigX c := by
  cases h with
  | target qs => exact (addTarget_onlySlots ms c qs).sigX
  | wait h => exact (waitForFall_wait h).frame.sigX
  | delay h => exact (addDelay_onlySlots h).sigX
  | pulse _ ha => exact (addPulse_onlySlots ha).sigX
  | enable => exact (enableEom_sets ..).1
  | disable => exact (disableEom_sets ..).1

theorem _root_.Pulser.Prim.sameX {w : Width} {s s' : SeqState} (hw : w ≠ .all) (h : Prim w s s') : SameX s s' := by
  cases h with
  | chan hc h => exact setChan_sameX hc h.keepX
  | shift | used => exact (mapRefs_same ..).toX
  | nonEmpty => exact ⟨rfl, rfl, rfl, rfl, rfl, rfl⟩
  | declare hw' => exact absurd hw' hw
  | measure hw' => exact absurd hw' hw

theorem stepRaw_sameX {s : SeqState} {op : Op} (h : op.width ≠ .all) : SameX s (stepRaw s op).st := by
  rcases stepRaw_shape s op with ⟨_, hst⟩ | ⟨_, op', ⟨body, e, hv⟩, _⟩
  · rw [hst]; exact SameX.rfl' s
  · have hb : SameX s body.st :=
      Steps.keeps (I := SameX s) (fun hp hi => hi.trans (hp.sameX h)) hv (SameX.rfl' s)
    rw [e]
    exact hb.trans (Same.store op' (Same.rfl' _)).toX

end Param
end Pulser
