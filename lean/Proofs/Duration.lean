/-
  Proofs.Duration — `validate_duration` rounds up to the clock: the result is the one clock
  multiple in the window `[d, d + clock)`.
-/
import PulserModel.Basic
namespace Pulser

theorem overNat_false {m : Option Nat} {d : Nat} :
    overNat m d = false ↔ ∀ x, m = some x → d ≤ x := by
  unfold overNat
  cases m with
  | none => simp
  | some x => simp

/-- `d` rounded up to a multiple of `n` (as `validate_duration` computes it). -/
def ceilTo (n d : Nat) : Nat := if d % n ≠ 0 then d + (n - d % n) else d

theorem ceilTo_spec {n : Nat} (hn : 0 < n) (d : Nat) :
    n ∣ ceilTo n d ∧ d ≤ ceilTo n d ∧ ceilTo n d < d + n := by
  unfold ceilTo
  by_cases h : d % n ≠ 0
  · rw [if_pos h]
    refine ⟨?_, Nat.le_add_right _ _, Nat.add_lt_add_left (Nat.sub_lt hn (Nat.pos_of_ne_zero h)) d⟩
    -- `d + (n − d % n) = (d − d % n) + n`, and `n` divides `d − d % n`
    rw [← Nat.add_sub_assoc (Nat.le_of_lt (Nat.mod_lt d hn)), Nat.sub_add_comm (Nat.mod_le d n)]
    exact Nat.dvd_add (Nat.dvd_sub_mod d) (Nat.dvd_refl n)
  · rw [if_neg h]
    exact ⟨Nat.dvd_of_mod_eq_zero (Decidable.of_not_not h), Nat.le_refl _, Nat.lt_add_of_pos_right hn⟩

/-- Multiples of `n` less than `n` apart are in order: a positive difference `a − b` would be a
multiple of `n` below `n`. -/
theorem dvd_le_of_lt_add {n a b : Nat} (ha : n ∣ a) (hb : n ∣ b) (h : a < b + n) : a ≤ b :=
  Nat.le_of_not_lt fun hlt => Nat.not_le.mpr (Nat.sub_lt_left_of_lt_add (Nat.le_of_lt hlt) h)
    (Nat.le_of_dvd (Nat.sub_pos_of_lt hlt) (Nat.dvd_sub ha hb))

theorem ceilTo_le {n d g : Nat} (hn : 0 < n) (h1 : n ∣ g) (h2 : d ≤ g) : ceilTo n d ≤ g :=
  have := ceilTo_spec hn d
  dvd_le_of_lt_add this.1 h1 (Nat.lt_of_lt_of_le this.2.2 (Nat.add_le_add_right h2 n))

theorem ceilTo_unique {n d x : Nat} (hn : 0 < n) (h1 : n ∣ x) (h2 : d ≤ x) (h3 : x < d + n) :
    ceilTo n d = x :=
  have := ceilTo_spec hn d
  Nat.le_antisymm (ceilTo_le hn h1 h2)
    (dvd_le_of_lt_add h1 this.1 (Nat.lt_of_lt_of_le h3 (Nat.add_le_add_right this.2.1 n)))

/-- **`validate_duration`** accepts `d ≥ min_duration` whose rounded value respects the maximum,
and returns the rounded value.  (The test of the unrounded `d` against the maximum is implied.) -/
theorem validateDuration_iff {c : ChanCfg} {d d' : Nat} :
    validateDuration c d = .ok d' ↔
      c.minDur ≤ d ∧ ceilTo c.clock d = d' ∧ ∀ m, c.maxDur = some m → d' ≤ m := by
  have hle : d ≤ ceilTo c.clock d := by
    unfold ceilTo; split
    · exact Nat.le_add_right _ _
    · exact Nat.le_refl _
  unfold validateDuration
  by_cases h1 : d < c.minDur
  · rw [if_pos h1]; exact ⟨fun h => (by cases h), fun h => absurd h.1 (Nat.not_le.mpr h1)⟩
  rw [if_neg h1]
  by_cases h2 : overNat c.maxDur d = true
  · rw [if_pos h2]
    refine ⟨fun h => (by cases h), fun ⟨_, h, hm⟩ => ?_⟩
    have := overNat_false.mpr fun x hx => Nat.le_trans (h ▸ hle) (hm x hx)
    rw [this] at h2; cases h2
  rw [if_neg h2]
  have h2' := overNat_false.mp (Bool.eq_false_iff.mpr h2)
  unfold ceilTo
  by_cases hr : d % c.clock ≠ 0
  · rw [if_pos hr, if_pos hr]
    by_cases h3 : overNat c.maxDur (d + (c.clock - d % c.clock)) = true
    · rw [if_pos h3]
      refine ⟨fun h => (by cases h), fun ⟨_, h, hm⟩ => ?_⟩
      rw [overNat_false.mpr (h ▸ hm)] at h3; cases h3
    · rw [if_neg h3]
      have h3' := overNat_false.mp (Bool.eq_false_iff.mpr h3)
      exact ⟨fun h => (by injection h with h; exact ⟨Nat.le_of_not_lt h1, h, h ▸ h3'⟩),
        fun ⟨_, h, _⟩ => by rw [h]⟩
  · rw [if_neg hr, if_neg hr]
    exact ⟨fun h => (by injection h with h; exact ⟨Nat.le_of_not_lt h1, h, h ▸ h2'⟩),
      fun ⟨_, h, _⟩ => by rw [h]⟩

theorem validateDuration_ok {c : ChanCfg} {d d' : Nat} (hc : 0 < c.clock)
    (h : validateDuration c d = .ok d') :
    c.minDur ≤ d ∧ (∀ m, c.maxDur = some m → d' ≤ m) ∧ d ≤ d' ∧ d' < d + c.clock ∧ c.clock ∣ d' := by
  obtain ⟨h1, rfl, h3⟩ := validateDuration_iff.mp h
  have := ceilTo_spec hc d
  exact ⟨h1, h3, this.2.1, this.2.2, this.1⟩

theorem validateDuration_idem {c : ChanCfg} {d : Nat} (h1 : c.minDur ≤ d)
    (h2 : ∀ m, c.maxDur = some m → d ≤ m) (h3 : c.clock ∣ d) : validateDuration c d = .ok d := by
  refine validateDuration_iff.mpr ⟨h1, ?_, h2⟩
  unfold ceilTo
  rw [if_neg (by simp [Nat.mod_eq_zero_of_dvd h3])]

theorem adjustDuration_ok {c : ChanCfg} {d d' : Nat} (hc : 0 < c.clock)
    (h : adjustDuration c d = .ok d') :
    c.minDur ≤ d' ∧ d ≤ d' ∧ c.clock ∣ d' ∧ d' < max d c.minDur + c.clock ∧
      (∀ m, c.maxDur = some m → d' ≤ m) := by
  unfold adjustDuration at h
  have := validateDuration_ok hc h
  exact ⟨Nat.le_trans (Nat.le_max_right _ _) this.2.2.1, Nat.le_trans (Nat.le_max_left _ _) this.2.2.1,
    this.2.2.2.2, this.2.2.2.1, this.2.1⟩

end Pulser
