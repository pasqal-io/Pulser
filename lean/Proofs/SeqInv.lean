/-
  Proofs.SeqInv — lifting the per-channel timeline invariant to whole sequences
  and to every API call (`stepRaw`), including calls that raise.
-/
import Proofs.Steps
import Proofs.Limits
namespace Pulser

/-- The device fact the scheduler theorems assume: every clock period is positive. -/
def DevOk (d : Device) : Prop := (∀ c ∈ d.chans, 0 < c.clock) ∧ (∀ c ∈ d.dmms, 0 < c.clock)

/-- Every channel meets the timeline invariant. -/
def SeqInv (s : SeqState) : Prop := ∀ c ∈ s.chans, ChanInv s.dev.maxSeqDur c

/-- `s'` is a good successor of `s`: invariant holds, same device, and every
channel of `s` is still there, at the same position, only extended. -/
def SG (s s' : SeqState) : Prop :=
  SeqInv s' ∧ s'.dev = s.dev ∧ s'.nQ = s.nQ ∧
  ∀ (i : Nat) (c : ChanState), s.chans[i]? = some c → ∃ c', s'.chans[i]? = some c' ∧ Ext c c'

theorem SG.rfl' {s : SeqState} (h : SeqInv s) : SG s s :=
  ⟨h, rfl, rfl, fun _ c hc => ⟨c, hc, Ext.refl c⟩⟩

theorem SG.trans {a b c : SeqState} (h1 : SG a b) (h2 : SG b c) : SG a c := by
  refine ⟨h2.1, h2.2.1.trans h1.2.1, h2.2.2.1.trans h1.2.2.1, ?_⟩
  intro i x hx
  obtain ⟨y, hy, e1⟩ := h1.2.2.2 i x hx
  obtain ⟨z, hz, e2⟩ := h2.2.2.2 i y hy
  exact ⟨z, hz, e1.trans e2⟩

theorem SG_of_chans_eq {s s' : SeqState} (h : SeqInv s) (h1 : s'.chans = s.chans)
    (h2 : s'.dev = s.dev) (h3 : s'.nQ = s.nQ) : SG s s' :=
  ⟨by unfold SeqInv; rw [h1, h2]; exact h, h2, h3,
   fun i c hc => ⟨c, by rw [h1]; exact hc, Ext.refl c⟩⟩

theorem setChan_rel {R : ChanState → ChanState → Prop} (hrefl : ∀ c, R c c) {s : SeqState} {n : ChName}
    {c c' : ChanState} (hc : s.getChan n = some c) (hn : c'.name = c.name) (hg : R c c') :
    ∀ (i : Nat) (x : ChanState), s.chans[i]? = some x →
      ∃ y, (s.setChan c').chans[i]? = some y ∧ R x y := by
  obtain ⟨k, hk, he⟩ := setChan_eq_set hc hn
  intro i x hx
  rw [he]
  by_cases hki : k = i
  · subst hki
    cases hk.symm.trans hx
    exact ⟨c', List.getElem?_set_self (List.getElem?_eq_some_iff.mp hk).1, hg⟩
  · exact ⟨x, by rw [List.getElem?_set_ne hki]; exact hx, hrefl x⟩

theorem setChan_SG {s : SeqState} {n : ChName} {c c' : ChanState} (hi : SeqInv s)
    (hc : s.getChan n = some c) (hg : Good s.dev.maxSeqDur c c') : SG s (s.setChan c') := by
  refine ⟨fun x hx => ?_, rfl, rfl, setChan_rel Ext.refl hc hg.2.2.1 hg.2⟩
  obtain ⟨k, _, he⟩ := setChan_eq_set hc hg.2.2.1
  rw [he] at hx
  rcases List.mem_or_eq_of_mem_set hx with hx | hx
  · exact hi x hx
  · rw [hx]; exact hg.1

theorem ChanPrim.good {ms : Option Nat} {nQ : Nat} {w : Width} {c c' : ChanState}
    (h : ChanPrim ms nQ w c c') (hi : ChanInv ms c) : Good ms c c' := by
  cases h with
  | target qs => exact addTarget_inv hi
  | wait h => exact waitForFall_inv hi h
  | delay h => exact addDelay_inv hi h
  | pulse hv ha =>
    have hva := validateAndAdjust_ok hi.1 hv
    exact addPulse_inv hi hva.1 hva.2.1 ha
  | enable => exact enableEom_inv hi
  | disable => exact disableEom_inv hi

theorem freshChan_inv {name : ChName} {chId : Nat} {cfg : ChanCfg} {qs : List Nat} {w : Bool}
    {a b : Rat} {ms : Option Nat} (h : 0 < cfg.clock) :
    ChanInv ms (SeqState.freshChan name chId cfg qs w a b) := by
  cases w with
  | false => exact ⟨h, trivial⟩
  | true => exact ⟨h, rfl, rfl, rfl⟩

theorem addChannel_SG {s : SeqState} {c : ChanState} (hi : SeqInv s) (hc : ChanInv s.dev.maxSeqDur c) :
    SG s (s.addChannel c) := by
  rw [addChannel_eq]
  refine ⟨fun x hx => ?_, rfl, rfl, fun i x hx => ⟨x, ?_, Ext.refl x⟩⟩
  · rcases List.mem_append.mp hx with hx | hx
    · exact hi x hx
    · simp at hx; subst hx; exact hc
  · show (s.chans ++ [c])[i]? = some x
    rw [List.getElem?_append_left (List.getElem?_eq_some_iff.mp hx).1]; exact hx

theorem DevOk.clock {d : Device} (hd : DevOk d) {cfg : ChanCfg} (h : cfg ∈ d.chans ∨ cfg ∈ d.dmms) :
    0 < cfg.clock := h.elim (hd.1 cfg) (hd.2 cfg)

theorem injectOracle_SG {s : SeqState} (hi : SeqInv s) (n : ChName) (d : Rat) (du fs fe : Nat) :
    SG s (s.injectOracle n d du fs fe) := by
  -- the timeline invariant does not look at the oracle table
  obtain ⟨h1, h2, _⟩ := injectOracle_rel
    (R := fun c c' => Ext c c' ∧ (ChanInv s.dev.maxSeqDur c → ChanInv s.dev.maxSeqDur c'))
    (fun c => ⟨Ext.refl c, id⟩) (fun c _ => ⟨.oracle c _, id⟩) s n d du fs fe
  refine ⟨fun c' hc' => ?_, rfl, rfl, fun i c hc => ?_⟩
  · obtain ⟨c, hc, hr⟩ := h2 c' hc'
    exact hr.2 (hi c hc)
  · obtain ⟨c', hc', hr⟩ := h1 i c hc
    exact ⟨c', hc', hr.1⟩

/-- The device matters for fresh channels only. -/
theorem Move.SG {w : Width} {s s' : SeqState} (h : Move w s s') (hd : w = .all → DevOk s.dev)
    (hi : SeqInv s) : SG s s' := by
  cases h with
  | prim h =>
    cases h with
    | chan hc h => exact setChan_SG hi hc (h.good (hi _ (getChan_mem hc).1))
    | shift | used => rw [mapRefs_eq]; exact SG_of_chans_eq hi rfl rfl rfl
    | nonEmpty | measure => exact SG_of_chans_eq hi rfl rfl rfl
    | declare hw hcfg => exact addChannel_SG hi (freshChan_inv ((hd hw).clock hcfg))
  | record => exact SG_of_chans_eq hi rfl rfl rfl
  | oracle n d du fs fe => exact injectOracle_SG hi n d du fs fe

theorem Steps.SG {w : Width} {s s' : SeqState} (h : Steps (Move w) s s') (hd : w = .all → DevOk s.dev)
    (hi : SeqInv s) : SG s s' :=
  Steps.lift (I := fun a => a.dev = s.dev ∧ SeqInv a) (fun h => SG.rfl' h.2) SG.trans
    (fun h g => ⟨g.2.1.trans h.1, g.1⟩) (fun h m => m.SG (by rw [h.1]; exact hd) h.2) h ⟨rfl, hi⟩

/-- Raw results whose state is a good successor. -/
def RG (s : SeqState) (r : Raw) : Prop := SG s r.st

/-- Every API call — successful or raising — keeps the timeline invariant and
only extends the channels' timelines. -/
theorem stepRaw_RG {s : SeqState} (hd : DevOk s.dev) (hi : SeqInv s) (op : Op) :
    RG s (stepRaw s op) :=
  (stepRaw_moves s op).SG (fun _ => hd) hi

theorem runEv_SG {s : SeqState} (hd : DevOk s.dev) (hi : SeqInv s) (evs : List Ev) :
    SG s (runEv s evs) :=
  (runEv_moves s evs).SG (fun _ => hd) hi

end Pulser
