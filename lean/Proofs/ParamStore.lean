/-
  Proofs.ParamStore — the bookkeeping a parametrized sequence keeps at STORE time
  (declared channels and their configuration, EOM mode read off the stored calls, the
  `_param_measurement` flag, the addressed bases) agrees with the state the direct
  construction is in, and stays in agreement after every successful call (C08,
  `store_no_spurious_reject`).
-/
import Proofs.Param
import Proofs.Limits
import Proofs.Same
namespace Pulser
namespace Param

/-- The EOM modes after an operation that sets the mode of channel `n` to `b`. -/
def ModeSet (n : ChName) (b : Bool) (s s' : SeqState) : Prop :=
  ∀ m, modeOf s' m = if m = n then (modeOf s m).map (fun _ => b) else modeOf s m

theorem ModeSet.then_same {n : ChName} {b : Bool} {s s1 s2 : SeqState} (h : ModeSet n b s s1)
    (h2 : Same s1 s2) : ModeSet n b s s2 := fun m => (h2.modeOf m).trans (h m)

/-- Bookkeeping `mark` that is right about every declared channel (`P (modeOf s m) (mark m)`, with
`P (some b) b`) stays right when the mode of the declared channel `n` and its mark become `b`. -/
theorem ModeSet.inv {P : Option Bool → Bool → Prop} (hP : ∀ b, P (some b) b) {n : ChName} {b b0 : Bool}
    {s s' : SeqState} (hs : ModeSet n b s s') (hold : modeOf s n = some b0) {mark mark' : ChName → Bool}
    (hn : mark' n = b) (hne : ∀ m, m ≠ n → mark' m = mark m) (hi : ∀ m, P (modeOf s m) (mark m)) (m : ChName) :
    P (modeOf s' m) (mark' m) := by
  rw [hs m]
  by_cases hm : m = n
  · subst hm; rw [if_pos rfl, hold, hn]; exact hP b
  · rw [if_neg hm, hne m hm]; exact hi m

theorem withChan_sets {s : SeqState} {n : ChName} {f : ChanState → CRes} {b : Bool}
    (hf : ∀ c, Sets b c (f c)) (herr : (s.withChan n f).err = none) :
    ModeSet n b s (s.withChan n f).st := by
  unfold SeqState.withChan at herr ⊢
  cases hc : s.getChan n with
  | none => rw [hc] at herr; cases herr
  | some c =>
    rw [hc] at herr
    intro m
    unfold modeOf
    rw [getChan_setChan, show (f c).c.name = c.name from congrArg Prod.fst (hf c).1, (getChan_mem hc).2]
    by_cases hm : m = n
    · subst hm
      simp only [if_true, hc, Option.map_some]
      rw [(hf c).2 herr]
    · simp [hm]

theorem eom_bind {s : SeqState} {n : ChName} {f : ChanState → CRes} {b : Bool}
    {g : SeqState → Raw} (hf : ∀ c, Sets b c (f c)) (hg : ∀ s1, Same s1 (g s1).st)
    (hok : ((s.withChan n f).bind g).err = none) : ModeSet n b s ((s.withChan n f).bind g).st := by
  obtain ⟨he, hb⟩ := Raw.bind_ok hok
  rw [hb]
  exact (withChan_sets hf he).then_same (hg _)

theorem validateChannel_modeOf {s : SeqState} {n : ChName} {c : ChanState}
    (hv : s.validateChannel n false = .ok c) : modeOf s n = some c.inEomMode := by
  unfold modeOf
  rw [(validateChannel_ok hv).1]; rfl

/-- `P` holds of `r` provided `r` went through.  What an accepted call passed is read off it by the rules
below, one per construct the calls are written in; `Registers` and `Imp` are instances. -/
def WhenOk (P : Raw → Prop) (r : Raw) : Prop := r.err = none → P r

theorem WhenOk.fail {P : Raw → Prop} {s : SeqState} {e : Err} : WhenOk P (fail s e) := fun h => by cases h

theorem WhenOk.guard {P : Raw → Prop} {g : Prop} [Decidable g] {s : SeqState} {e : Err} {r : Raw}
    (h : ¬g → WhenOk P r) : WhenOk P (if g then Pulser.fail s e else r) := by
  by_cases hg : g
  · rw [if_pos hg]; exact .fail
  · rw [if_neg hg]; exact h hg

theorem WhenOk.ite {P : Raw → Prop} {g : Prop} [Decidable g] {r₁ r₂ : Raw} (h₁ : WhenOk P r₁) (h₂ : WhenOk P r₂) :
    WhenOk P (if g then r₁ else r₂) := by
  split
  · exact h₁
  · exact h₂

theorem WhenOk.orRollback {P : Raw → Prop} {r : Raw} {s : SeqState} (h : WhenOk P r) : WhenOk P (r.orRollback s) :=
  fun he => by rw [Raw.orRollback_ok he]; exact h ((Raw.orRollback_err r s).symm.trans he)

theorem WhenOk.store {P : Raw → Prop} {op : Op} {r : Raw} (h : WhenOk (fun r => P (store op r)) r) :
    WhenOk P (store op r) := fun he => h ((store_err op r).symm.trans he)

theorem enableEom_ok {s : SeqState} {n : ChName} {e : EomIn} :
    WhenOk (fun r => ∃ c d, s.validateChannel n false = .ok c ∧ c.inEomMode = false ∧
      r = enableEomCommit s n c e d) (stepRaw s (.enableEom n e)) := by
  refine .guard fun _ => ?_
  cases hv : s.validateChannel n false with
  | error er => exact .fail
  | ok c =>
    refine .guard fun g1 => .guard fun _ => ?_
    cases hp : processEomParams c e with
    | error er => exact .fail
    | ok d => exact .orRollback fun _ => ⟨c, d, rfl, Bool.eq_false_iff.mpr g1, rfl⟩

theorem enableEom_step {s : SeqState} {n : ChName} {e : EomIn}
    (hok : (stepRaw s (.enableEom n e)).err = none) :
    ModeSet n true s (stepRaw s (.enableEom n e)).st ∧ modeOf s n = some false := by
  obtain ⟨c, d, hv, g1, heq⟩ := enableEom_ok hok
  rw [heq] at hok ⊢
  unfold enableEomCommit at hok ⊢
  exact ⟨eom_bind (fun c => enableEom_sets _ c _ _ _ _ _)
      (fun s1 => Same.store _ (Steps.same Via.driftShift)) hok,
    by rw [validateChannel_modeOf hv, g1]⟩

theorem disableEom_ok {s : SeqState} {n : ChName} {corr : Bool} :
    WhenOk (fun r => ∃ c g, s.validateChannel n false = .ok c ∧ c.inEomMode = true ∧ (∀ s1, Via .slots s1 (g s1)) ∧
      r = store (.disableEom n corr) ((s.withChan n fun c => disableEom s.dev.maxSeqDur c false).bind g))
      (stepRaw s (.disableEom n corr)) := by
  refine .store (.orRollback (.guard fun _ => ?_))
  cases hv : s.validateChannel n false with
  | error er => exact .fail
  | ok c => exact .guard fun g1 _ => ⟨c, _, rfl, Bool.of_not_eq_false fun h => g1 (by rw [h]; rfl), fun s1 => Via.driftShiftOff, rfl⟩

theorem disableEom_step {s : SeqState} {n : ChName} {corr : Bool}
    (hok : (stepRaw s (.disableEom n corr)).err = none) :
    ModeSet n false s (stepRaw s (.disableEom n corr)).st ∧ modeOf s n = some true := by
  obtain ⟨c, g, hv, g1, hg, heq⟩ := disableEom_ok hok
  rw [heq] at hok ⊢
  exact ⟨(eom_bind (fun c => disableEom_sets _ c _) (fun s1 => (hg s1).same) (((store_err _ _).symm.trans hok))).then_same
      (Same.store _ (Same.rfl' _)),
    by rw [validateChannel_modeOf hv, g1]⟩

theorem modifyEom_ok {s : SeqState} {n : ChName} {e : EomIn} :
    WhenOk (fun r => ∃ c d, s.validateChannel n false = .ok c ∧ c.inEomMode = true ∧
      r = modifyEomCommit s n c e d) (stepRaw s (.modifyEom n e)) := by
  refine .guard fun _ => ?_
  cases hv : s.validateChannel n false with
  | error er => exact .fail
  | ok c =>
    refine .guard fun g1 => ?_
    cases hp : processEomParams c e with
    | error er => exact .fail
    | ok d => exact .orRollback fun _ => ⟨c, d, rfl, Bool.of_not_eq_false fun h => g1 (by rw [h]; rfl), rfl⟩

theorem modifyEom_step {s : SeqState} {n : ChName} {e : EomIn}
    (hok : (stepRaw s (.modifyEom n e)).err = none) :
    ModeSet n true s (stepRaw s (.modifyEom n e)).st ∧ modeOf s n = some true := by
  obtain ⟨c, d, hv, g1, heq⟩ := modifyEom_ok hok
  rw [heq] at hok ⊢
  unfold modifyEomCommit at hok ⊢
  -- first half: close the running block; second half: open the new one and record the call
  obtain ⟨he, hb⟩ := Raw.bind_ok hok
  have hm := withChan_sets (b := false) (fun c => disableEom_sets _ c _) he
  rw [hb] at hok ⊢
  generalize (s.withChan n fun c => disableEom s.dev.maxSeqDur c true).st = s1 at *
  revert hok
  split
  · exact fun h => by cases h
  intro hok
  have t2 := eom_bind (b := true) (fun c => enableEom_sets _ c _ _ _ _ _)
    (fun s2 => Same.store _ (Steps.same Via.driftShift)) hok
  refine ⟨fun m => (t2 m).trans ?_, by rw [validateChannel_modeOf hv, g1]⟩
  rw [hm m]
  by_cases hmn : m = n
  · simp [hmn, Option.map_map]
  · simp [hmn]

theorem measure_step {s : SeqState} {b : Basis} :
    WhenOk (fun r => r.st = { s with measured := some b, calls := s.calls ++ [.measure b] })
      (stepRaw s (.measure b)) :=
  .store (.guard fun _ => .guard fun _ _ => rfl)

theorem addChannel_getChan (s : SeqState) (c : ChanState) (m : ChName) :
    (s.addChannel c).getChan m = (s.getChan m).or (if c.name = m then some c else none) := by
  unfold SeqState.getChan
  rw [addChannel_eq]
  simp only [List.find?_append, List.find?_singleton, beq_iff_eq]

/-- Mode table after a channel named `nm` (not in EOM mode) has been registered. -/
def extMode (old : Option Bool) (nm m : ChName) : Option Bool :=
  old.or (if nm = m then some false else none)

theorem addChannel_modeOf (s : SeqState) (c : ChanState) (hc : c.inEomMode = false) (m : ChName) :
    modeOf (s.addChannel c) m = extMode (modeOf s m) c.name m := by
  unfold modeOf extMode
  rw [addChannel_getChan, Option.map_or]
  split
  · rw [Option.map_some, hc]
  · rfl

/-- When `r` succeeded, its mode table is that of `s` with a channel `nm`, not in EOM mode, registered. -/
def Registers (nm : ChName) (s : SeqState) : Raw → Prop :=
  WhenOk fun r => ∀ m, modeOf r.st m = extMode (modeOf s m) nm m

theorem Registers.intro {nm : ChName} {s s1 : SeqState} (h : ∀ m, modeOf s1 m = extMode (modeOf s m) nm m) :
    Registers nm s (done s1) := fun _ => h

theorem Registers.fresh (s : SeqState) (nm : ChName) (chId : Nat) (cfg : ChanCfg) (qs : List Nat)
    (w : Bool) (a b : Rat) : Registers nm s (done (s.addChannel (SeqState.freshChan nm chId cfg qs w a b))) :=
  .intro (addChannel_modeOf s _ rfl)

theorem Registers.then {nm : ChName} {s s1 : SeqState} {r : Raw} (h : Registers nm s (done s1))
    (hr : Same s1 r.st) : Registers nm s r :=
  fun _ m => (hr.modeOf m).trans (h rfl m)

theorem Registers.store {nm : ChName} {s : SeqState} {r : Raw} (op : Op) (h : Registers nm s r) :
    Registers nm s (store op r) :=
  fun he m => ((Same.store op (Same.rfl' _)).modeOf m).trans (h (((store_err _ _).symm.trans he)) m)

theorem declare_step {s : SeqState} {name : ChName} {chId : Nat} {init : Option (List Nat)}
    (hok : (stepRaw s (.declare name chId init)).err = none) (m : ChName) :
    modeOf (stepRaw s (.declare name chId init)).st m = extMode (modeOf s m) name m := by
  refine (?_ : Registers name s (stepRaw s (.declare name chId init))) hok m
  refine .ite (.fail) ?_
  cases name with
  | dmm i k => exact .fail
  | user u =>
    refine .ite (.fail) ?_
    cases s.dev.chans[chId]? with
    | none => exact .fail
    | some cfg =>
      have hf := Registers.fresh s (.user u) chId cfg s.allQubits (!cfg.isLocal) 1 1
      refine .ite (.ite (.fail) (.ite (.fail) (.fail))) (Registers.store _ (.ite hf ?_))
      cases init with
      | none => exact hf
      | some qs => exact (hf.then (targetCore_via _ _).same).orRollback

theorem configDetMap_step {s : SeqState} {dmmId : Nat} {w1 w2 : Rat}
    (hok : (stepRaw s (.configDetMap dmmId w1 w2)).err = none) :
    ∃ nm : ChName, ∀ m, modeOf (stepRaw s (.configDetMap dmmId w1 w2)).st m = extMode (modeOf s m) nm m := by
  refine ⟨ChName.dmm dmmId (List.filter (fun c => match c.name with
      | ChName.dmm i _ => i == dmmId | _ => false) s.chans).length, ?_⟩
  refine (?_ : Registers _ s (stepRaw s (.configDetMap dmmId w1 w2))) hok
  refine .ite (.fail) ?_
  cases s.dev.dmms[dmmId]? with
  | none => exact .fail
  | some cfg => exact .ite (.fail) (.ite (.fail) (Registers.store _ (.fresh s _ _ _ _ _ _ _)))

/-! ### The EOM mode of a concrete sequence can be read off its call log
(what `is_in_eom_mode` does once the sequence is parametrized) -/

/-- The latest enable/disable mark of channel `m` in a call log (`false` if none). -/
def markOf (calls : List Op) (m : ChName) : Bool := (calls.reverse.findSome? (eomMark m)).getD false

theorem markOf_snoc (calls : List Op) (op : Op) (m : ChName) :
    markOf (calls ++ [op]) m = (eomMark m op).getD (markOf calls m) := by
  unfold markOf
  simp only [List.reverse_append, List.reverse_cons, List.reverse_nil, List.nil_append, List.cons_append,
    List.findSome?_cons]
  cases eomMark m op <;> rfl

/-- Every declared channel is in EOM mode iff the log says so; an undeclared name has no mark. -/
def PreInv (s : SeqState) : Prop :=
  ∀ m, (modeOf s m = none ∧ markOf s.calls m = false) ∨ modeOf s m = some (markOf s.calls m)

theorem preInv_init (dev : Device) (nQ : Nat) : PreInv (SeqState.init dev nQ) := by
  intro m; left; exact ⟨rfl, rfl⟩

/-- Calls that are recorded (everything except the read-only queries). -/
def building : Op → Bool
  | .getDuration .. | .estimate .. | .phaseRef .. => false
  | _ => true

theorem stepRaw_mark {s : SeqState} {op : Op} (hok : (stepRaw s op).err = none) (hb : building op = true)
    (m : ChName) : markOf (stepRaw s op).st.calls m = (eomMark m op).getD (markOf s.calls m) := by
  rcases stepRaw_shape s op with ⟨hq, _⟩ | ⟨_, op', hst, has⟩
  · cases op with
    | getDuration | estimate | phaseRef => cases hb
    | _ => cases hq
  · rw [(hst.record hok).1, markOf_snoc]
    cases has <;> rfl

theorem eomMark_self (n : ChName) (b x : Bool) : ((if n = n then some b else none : Option Bool)).getD x = b := by
  rw [if_pos rfl]; rfl

theorem eomMark_other {n m : ChName} (h : m ≠ n) (b x : Bool) :
    ((if n = m then some b else none : Option Bool)).getD x = x := by
  rw [if_neg fun e => h e.symm]; rfl

/-- A bookkeeping `mark` that is right about every declared channel (as in `ModeSet.inv`; `hP'`: a
mark that is right about a declared channel is its mode) stays right along a successful call that
neither declares a channel nor measures, when it follows the call's enable/disable mark. -/
theorem stepRaw_marks {P : Option Bool → Bool → Prop} (hP : ∀ b, P (some b) b)
    (hP' : ∀ {b k}, P (some b) k → k = b) {s : SeqState} {op : Op} (hok : (stepRaw s op).err = none)
    (hw : op.width ≠ .all) {mark : ChName → Bool} (hi : ∀ m, P (modeOf s m) (mark m)) (m : ChName) :
    P (modeOf (stepRaw s op).st m) ((eomMark m op).getD (mark m)) := by
  revert m
  cases op with
  | enableEom n e =>
    obtain ⟨hs, hold⟩ := enableEom_step hok
    exact hs.inv hP hold (eomMark_self ..) (fun m h => eomMark_other h ..) hi
  | disableEom n corr =>
    obtain ⟨hs, hold⟩ := disableEom_step hok
    exact hs.inv hP hold (eomMark_self ..) (fun m h => eomMark_other h ..) hi
  | modifyEom n e =>
    obtain ⟨hs, hold⟩ := modifyEom_step hok
    exact hs.inv hP hold (hP' (hold ▸ hi n)) (fun m _ => rfl) hi
  | declare | configDetMap | measure => exact absurd rfl hw
  | _ =>
    intro m
    rw [(stepRaw_same rfl).modeOf m]
    exact hi m

theorem preInv_ext {s s' : SeqState} {nm : ChName} (hi : PreInv s)
    (hm : ∀ m, modeOf s' m = extMode (modeOf s m) nm m)
    (hmark : ∀ m, markOf s'.calls m = markOf s.calls m) : PreInv s' := by
  intro m
  rw [hm m, hmark m]
  unfold extMode
  rcases hi m with ⟨h1, h2⟩ | h1
  · rw [h1, h2]
    by_cases hn : nm = m
    · right; simp [hn]
    · left; simp [hn]
  · rw [h1]; right; rfl

theorem preInv_step {s : SeqState} {op : Op} (hi : PreInv s) (hok : (stepRaw s op).err = none)
    (hb : building op = true) : PreInv (stepRaw s op).st := by
  have hmark := stepRaw_mark hok hb
  by_cases hw : op.width = .all
  · cases op with
    | declare name chId init => exact preInv_ext hi (fun m => declare_step hok m) hmark
    | configDetMap id w1 w2 =>
      obtain ⟨nm, hnm⟩ := configDetMap_step hok
      exact preInv_ext hi hnm hmark
    | measure b =>
      intro m
      rw [hmark m, measure_step hok]
      exact hi m
    | _ => cases hw
  · intro m
    rw [hmark m]
    exact stepRaw_marks (P := fun mo mk => (mo = none ∧ mk = false) ∨ mo = some mk) (fun b => .inr rfl)
      (fun h => by rcases h with ⟨h, _⟩ | h <;> cases h; rfl) hok hw hi m

theorem preInv_runAll {k : Nat} {s s' : SeqState} {ops : List Op} (hi : PreInv s)
    (hb : ∀ op ∈ ops, building op = true) (h : runAllFrom k s ops = .ok s') : PreInv s' :=
  runAllFrom_induct (Q := fun op => building op = true) (fun _ _ hi hb he => preInv_step hi he hb) hb hi h

theorem validatePulse_sig {c c0 : ChanState} (h : sigX c = sigX c0) (σ : PulseSummary) :
    validatePulse c σ = validatePulse c0 σ := by
  unfold sigX at h
  simp only [Prod.mk.injEq] at h
  obtain ⟨_, h2, h3, h4, _⟩ := h
  unfold validatePulse
  rw [h2, h3, h4]

theorem validateAndAdjust_sig {c c0 : ChanState} (h : sigX c = sigX c0) {p : PulseIn} {r : Option Rat}
    {pr : PulseRec} (hok : validateAndAdjust c p r = .ok pr) (r' : Option Rat) :
    ∃ pr', validateAndAdjust c0 p r' = .ok pr' := by
  obtain ⟨d, hv, hd, hadj, _⟩ := validateAndAdjust_iff.mp hok
  rw [validatePulse_sig h] at hv
  rw [sigX_cfg h] at hd
  -- the lengthened pulse is validated as scheduled (F37): same verdict on both channels
  exact ⟨_, validateAndAdjust_iff.mpr ⟨d, hv, hd, fun hne => ⟨(hadj hne).1, validatePulse_sig h _ ▸ (hadj hne).2⟩, rfl⟩⟩

theorem processEomParams_sig {c c0 : ChanState} (h : sigX c = sigX c0) (e : EomIn) :
    processEomParams c e = processEomParams c0 e := by
  unfold processEomParams
  simp only [validatePulse_sig h]

/-! ### The template's bookkeeping agrees with a state of the direct construction -/

structure Agree (t : Tmpl) (s : SeqState) : Prop where
  nQ : s.nQ = t.pre.nQ
  dev : s.dev = t.pre.dev
  inXY : s.inXY = t.pre.inXY
  sig : ∀ m, sigOf s m = sigOf t.pre m
  mode : ∀ m, modeOf s m = none ∨ modeOf s m = some (inEomT t m)
  meas : s.measured.isSome = t.paramMeas.isSome
  bases : s.refs.map (·.1) = t.pre.refs.map (·.1)

theorem Agree.chan {t : Tmpl} {s : SeqState} (ha : Agree t s) {n : ChName} {c : ChanState}
    (hc : s.getChan n = some c) :
    ∃ c0, t.pre.getChan n = some c0 ∧ sigX c = sigX c0 ∧ inEomT t n = c.inEomMode := by
  have hs := ha.sig n
  have hm := ha.mode n
  unfold sigOf at hs
  unfold modeOf at hm
  rw [hc] at hs hm
  cases h0 : t.pre.getChan n with
  | none => rw [h0] at hs; cases hs
  | some c0 =>
    rw [h0] at hs
    refine ⟨c0, rfl, Option.some.inj hs, ?_⟩
    rcases hm with hm | hm
    · cases hm
    · exact (Option.some.inj hm).symm

theorem getRefs_isSome (s : SeqState) (b : Basis) :
    (s.getRefs b).isSome = (s.refs.map (·.1)).any (· == b) := by
  unfold SeqState.getRefs
  rw [Option.isSome_map, List.isSome_find?, List.any_map]
  rfl

theorem Agree.basis {t : Tmpl} {s : SeqState} (ha : Agree t s) (b : Basis) :
    (t.pre.getRefs b).isSome = (s.getRefs b).isSome := by
  rw [getRefs_isSome, getRefs_isSome, ha.bases]

theorem Agree.measBasis {t : Tmpl} {s : SeqState} (ha : Agree t s) (b : Basis) :
    measBasisOk t.pre b = measBasisOk s b := by
  unfold measBasisOk
  rw [ha.inXY, ha.dev]

/-- The evaluated indices of an array target are pairwise distinct (otherwise the size of the
variable overestimates the number of targets: see `C08.store_rejects_what_direct_accepts`). -/
def targetsDistinct (I : Interp) (ρ : Assign) : POp → Prop
  | .target (.arr es) _ => ∀ l, evalList I ρ es = some l → (normTargets l).length = es.length
  | _ => True

theorem normTargets_nil_iff (l : List Nat) : (normTargets l).isEmpty = l.isEmpty := by
  cases l with
  | nil => rfl
  | cons x rest =>
    simp only [normTargets, List.foldr_cons, List.isEmpty_cons]
    generalize List.foldr insertU [] rest = r
    cases r with
    | nil => rfl
    | cons y ys =>
      unfold insertU
      split
      · rfl
      · split <;> rfl

theorem mem_insertU (x y : Nat) (l : List Nat) : x ∈ insertU y l ↔ x = y ∨ x ∈ l := by
  induction l with
  | nil => exact List.mem_cons
  | cons z rest ih =>
    unfold insertU
    split
    · exact List.mem_cons
    · split
      · rename_i h2; subst h2; exact ⟨.inr, fun h => h.elim (fun e => e ▸ List.mem_cons_self) id⟩
      · rw [List.mem_cons, ih, List.mem_cons]; exact or_left_comm

theorem mem_normTargets {x : Nat} {l : List Nat} (h : x ∈ l) : x ∈ normTargets l := by
  unfold normTargets
  induction l with
  | nil => cases h
  | cons y rest ih =>
    simp only [List.foldr_cons, mem_insertU]
    rcases List.mem_cons.mp h with e | e
    · exact Or.inl e
    · exact Or.inr (ih e)

theorem evalNats_mem {I : Interp} {ρ : Assign} {qs : List (Arg Nat)} {l : List Nat} {i : Nat}
    (h : evalNats I ρ qs = some l) (hm : Arg.conc i ∈ qs) : i ∈ l := by
  induction qs generalizing l with
  | nil => cases hm
  | cons a0 rest ih =>
    simp only [evalNats] at h
    split at h
    · rename_i v vs h1 h2
      cases h
      rcases List.mem_cons.mp hm with e | e
      · subst e; cases h1; exact List.mem_cons_self
      · exact List.mem_cons_of_mem _ (ih h2 e)
    · cases h

/-- If the direct call succeeded, the store-time check passes. -/
def Imp (r : Raw) (o : Option Err) : Prop := WhenOk (fun _ => o = none) r

theorem Imp.pass {r : Raw} : Imp r none := fun _ => rfl

theorem Imp.ite {g g' : Prop} [Decidable g] [Decidable g'] {s : SeqState} {e e' : Err} {r : Raw}
    {o : Option Err} (hg : g → g') (h : ¬ g' → Imp r o) :
    Imp (if g' then Pulser.fail s e' else r) (if g then some e else o) := by
  intro hr
  split at hr
  · cases hr
  · rename_i ng
    rw [if_neg fun h0 => ng (hg h0)]
    exact h ng hr

theorem Imp.markNonEmpty {r : Raw} {o : Option Err} (h : Imp r o) : Imp (markNonEmpty r) o :=
  fun he => h (((markNonEmpty_err _).symm.trans he))

/-- `@block_if_measured` against `_param_measurement`. -/
theorem Imp.meas {t : Tmpl} {s : SeqState} (ha : Agree t s) {r : Raw} {o : Option Err} (h : Imp r o) :
    Imp (if s.measured.isSome then Pulser.fail s .measured else r)
      (if t.paramMeas.isSome then some .measured else o) :=
  Imp.ite (fun h => by rw [ha.meas]; exact h) fun _ => h

/-- `_validate_channel`: the direct side looks the channel up and, when `blk`, refuses it in EOM
mode; the template finds a channel with the same static part whose recorded mode is the direct one. -/
theorem Imp.chan {t : Tmpl} {s : SeqState} (ha : Agree t s) {n : ChName} {blk : Bool} {k : ChanState → Raw}
    {o : ChanState → Option Err}
    (h : ∀ c c0, s.getChan n = some c → sigX c = sigX c0 → inEomT t n = c.inEomMode →
      (blk = true → c.inEomMode = false) → Imp (k c) (o c0)) :
    Imp (match s.validateChannel n blk with | .error e => Pulser.fail s e | .ok c => k c)
      (match t.pre.getChan n with | none => some .notDeclared | some c0 => o c0) := by
  unfold SeqState.validateChannel
  cases hc : s.getChan n with
  | none => exact WhenOk.fail
  | some c =>
    obtain ⟨c0, hc0, hsig, hin⟩ := ha.chan hc
    rw [hc0]
    simp only
    by_cases hb : (blk && c.inEomMode) = true
    · rw [if_pos hb]; exact WhenOk.fail
    · rw [if_neg hb]
      exact h c c0 hc hsig hin fun hblk => Bool.eq_false_iff.mpr fun hm => hb (by rw [hblk, hm]; rfl)

/-- `_add` after validation: both sides refuse a missing protocol; otherwise its success says that
the pulse was validated on the channel. -/
theorem Imp.addCore {s : SeqState} {p : PulseIn} {n : ChName} {proto : Option Protocol}
    {drift : Option Drift} {c : ChanState} {o : Option Err} (hc : s.getChan n = some c)
    (h : ∀ r pr, validateAndAdjust c p r = .ok pr → o = none) :
    Imp (addCore s p n proto drift) (match proto with | none => some .badProtocol | some _ => o) :=
  fun hok => by
    rcases addCore_cases p n proto drift with ⟨e, h0⟩ | ⟨_, c', _, _, _, pr, rfl, hc', _, hpr, _⟩
    · rw [h0] at hok; cases hok
    · cases hc.symm.trans hc'; exact h _ pr hpr

theorem evalOp_addEom {I : Interp} {ρ : Assign} {n : ChName} {dur : Arg Nat} {ph po : Arg Rat}
    {proto : Option Protocol} {corr : Bool} {fall ref : Nat} {op : Op}
    (h : evalOp I ρ (.addEom n dur ph po proto corr fall ref) = some op) :
    ∃ d x y, evalNat I ρ dur = some d ∧
      op = .addEom n d x y proto corr (I.fall fall d).1 (I.fall fall d).2 ref := by
  simp only [evalOp] at h
  split at h
  · cases h; exact ⟨_, _, _, ‹_›, rfl⟩
  · cases h

theorem evalOp_phaseShift {I : Interp} {ρ : Assign} {phi : Arg Rat} {qs : List (Arg Nat)} {b : Basis}
    {op : Op} (h : evalOp I ρ (.phaseShift phi qs b) = some op) :
    ∃ x l, evalNats I ρ qs = some l ∧ op = .phaseShift x (normTargets l) b := by
  simp only [evalOp] at h
  split at h
  · cases h; exact ⟨_, _, ‹_›, rfl⟩
  · cases h

/-- **Store-time checks are implied by the build-time checks**: when the template's
bookkeeping agrees with the state of the direct construction and the evaluated call succeeds
there, every check the call goes through when it is STORED passes.  The two sides make their
checks in the same order, and are compared check by check. -/
theorem store_accepts_of_direct (I : Interp) (ρ : Assign) {t : Tmpl} {s : SeqState} {p : POp} {op : Op}
    (ha : Agree t s) (hev : evalOp I ρ p = some op) (hok : (stepRaw s op).err = none)
    (hnd : targetsDistinct I ρ p) : storeCheck t p = none := by
  refine (?_ : Imp (stepRaw s op) (storeCheck t p)) hok
  cases p with
  | target qs n =>
    obtain ⟨l, hl, rfl⟩ := Option.map_eq_some_iff.mp hev
    refine WhenOk.store (WhenOk.orRollback ?_)
    refine Imp.meas ha (Imp.chan ha fun c c0 hc hsig hin hblk => ?_)
    rw [hin, hblk rfl, sigX_cfg hsig, ← ha.nQ]
    simp only [Bool.false_eq_true, if_false]
    cases qs with
    | conc l' =>
      cases hl
      exact Imp.ite List.isEmpty_iff_length_eq_zero.mpr fun _ => Imp.ite id fun _ => Imp.ite id fun _ =>
        Imp.ite id fun _ => Imp.pass
    | arr es =>
      simp only [evalTArg, Option.map_eq_some_iff] at hl
      obtain ⟨vals, hv, rfl⟩ := hl
      simp only [← hnd vals hv]
      exact Imp.ite List.isEmpty_iff_length_eq_zero.mpr fun _ => Imp.ite id fun _ => Imp.ite id fun _ => Imp.pass
  | add pp n proto =>
    obtain ⟨pi, hpi, rfl⟩ := Option.map_eq_some_iff.mp hev
    refine WhenOk.store (Imp.markNonEmpty ?_)
    refine Imp.meas ha (Imp.chan ha fun c c0 hc hsig hin hblk => ?_)
    rw [hin, hblk rfl, ← sigX_cfg hsig]
    simp only [Bool.false_eq_true, if_false]
    refine Imp.ite id fun _ => Imp.addCore hc fun r pr hva => ?_
    cases pp with
    | param mk args => rfl
    | conc pi' =>
      cases hpi
      obtain ⟨pr', hpr'⟩ := validateAndAdjust_sig hsig hva none
      simp only [hpr']
  | addDmm pp n proto =>
    obtain ⟨pi, hpi, rfl⟩ := Option.map_eq_some_iff.mp hev
    refine WhenOk.store (Imp.markNonEmpty ?_)
    refine Imp.meas ha (Imp.chan ha fun c c0 hc hsig _ _ => ?_)
    rw [← sigX_cfg hsig]
    refine Imp.ite id fun _ => Imp.addCore hc fun r pr hva => ?_
    cases pp with
    | param mk args => rfl
    | conc pi' =>
      cases hpi
      obtain ⟨pr', hpr'⟩ := validateAndAdjust_sig hsig hva none
      simp only [hpr']
  | addEom n dur phase post proto corr fall ref =>
    obtain ⟨d, x, y, hd, rfl⟩ := evalOp_addEom hev
    refine WhenOk.store (Imp.markNonEmpty ?_)
    refine Imp.meas ha (Imp.chan ha fun c c0 hc hsig hin _ => ?_)
    rw [hin, ← sigX_cfg hsig]
    unfold ChanState.inEomMode
    cases c.eom.getLast? with
    | none => exact WhenOk.fail
    | some b =>
      simp only
      refine Imp.ite (g := (!b.tf.isNone) = true) (by cases b.tf <;> exact id) fun _ =>
        Imp.addCore hc fun r pr hva => ?_
      cases dur with
      | param e => rfl
      | conc d' =>
        cases hd
        obtain ⟨d2, _, hd2, _⟩ := validateAndAdjust_iff.mp hva
        simp only [hd2]
  | delay d n atRest =>
    obtain ⟨dv, _, rfl⟩ := Option.map_eq_some_iff.mp hev
    refine WhenOk.store (WhenOk.orRollback ?_)
    rcases delayChecked_cases s dv n atRest with h | ⟨e, h⟩ <;> rw [h]
    · exact Imp.meas ha (Imp.chan ha fun _ _ _ _ _ _ => Imp.pass)
    · exact WhenOk.fail
  | align chs atRest =>
    cases hev
    refine WhenOk.store (WhenOk.orRollback ?_)
    refine Imp.meas ha (Imp.ite (fun h => ?_) fun _ => Imp.ite id fun _ => Imp.ite id fun _ => Imp.pass)
    obtain ⟨n, hn, h0⟩ := List.any_eq_true.mp h
    refine List.any_eq_true.mpr ⟨n, hn, ?_⟩
    cases hc : s.getChan n with
    | none => rfl
    | some c =>
      obtain ⟨c0, hc0, _, _⟩ := ha.chan hc
      rw [hc0] at h0; cases h0
  | phaseShift phi qs b =>
    obtain ⟨x, l, hqs, rfl⟩ := evalOp_phaseShift hev
    refine WhenOk.store ?_
    refine Imp.ite (fun h => ?_) fun _ => ?_
    · rw [← Option.not_isSome, ← ha.basis b, Option.not_isSome]; exact h
    simp only
    refine Imp.ite (fun h => ?_) fun _ => Imp.pass
    -- a concrete index out of range is among the evaluated targets, so these are not empty
    obtain ⟨a, hamem, hbad⟩ := List.any_eq_true.mp h
    cases a with
    | param e => cases hbad
    | conc i =>
      have hmem : i ∈ normTargets l := mem_normTargets (evalNats_mem hqs hamem)
      rw [List.isEmpty_eq_false_iff_exists_mem.mpr ⟨i, hmem⟩]
      exact List.any_eq_true.mpr ⟨i, hmem, by rw [ha.nQ]; exact hbad⟩
  | enableEom n e =>
    obtain ⟨ei, hei, rfl⟩ := Option.map_eq_some_iff.mp hev
    refine Imp.meas ha (Imp.chan ha fun c c0 hc hsig hin _ => ?_)
    rw [hin, ← sigX_cfg hsig]
    refine Imp.ite id fun _ => Imp.ite id fun _ => ?_
    cases e with
    | param mk a dd o corr => exact Imp.pass
    | conc e' =>
      cases hei
      simp only [← processEomParams_sig hsig]
      cases processEomParams c ei with
      | error er => exact WhenOk.fail
      | ok d => exact Imp.pass
  | modifyEom n e =>
    obtain ⟨ei, hei, rfl⟩ := Option.map_eq_some_iff.mp hev
    refine Imp.meas ha (Imp.chan ha fun c c0 hc hsig hin _ => ?_)
    rw [hin]
    refine Imp.ite id fun _ => ?_
    cases e with
    | param mk a dd o corr => exact Imp.pass
    | conc e' =>
      cases hei
      simp only [← processEomParams_sig hsig]
      cases processEomParams c ei with
      | error er => exact WhenOk.fail
      | ok d => exact Imp.pass
  | disableEom n corr =>
    cases hev
    refine WhenOk.store (WhenOk.orRollback ?_)
    refine Imp.meas ha (Imp.chan ha fun c c0 hc hsig hin _ => ?_)
    rw [hin]
    exact Imp.ite id fun _ => Imp.pass
  | measure b =>
    cases hev
    refine WhenOk.store ?_
    exact Imp.meas ha (Imp.ite (fun h => by rw [← ha.measBasis b]; exact h) fun _ => Imp.pass)

/-- What `tstep` does to the template when a call is accepted while parametrized. -/
def storeT (t : Tmpl) (p : POp) : Tmpl :=
  { t with stored := t.stored ++ [storedForm t p],
           paramMeas := match p with | .measure b => some b | _ => t.paramMeas }

theorem eomMarkP_storedForm (t : Tmpl) (p : POp) (m : ChName) :
    eomMarkP m (storedForm t p) = eomMarkP m p := by
  unfold storedForm
  repeat' split
  all_goals rfl

theorem inEomT_store (t : Tmpl) (p : POp) (m : ChName) :
    inEomT (storeT t p) m = (eomMarkP m p).getD (inEomT t m) := by
  unfold inEomT storeT
  simp only [List.reverse_append, List.reverse_cons, List.reverse_nil, List.nil_append, List.cons_append,
    List.findSome?_cons, eomMarkP_storedForm]
  cases eomMarkP m p <;> rfl

/-- Evaluation keeps the kind of a call: its enable/disable mark, whether it is `measure`; it never
yields a declaration. -/
theorem evalOp_kind {I : Interp} {ρ : Assign} {p : POp} {op : Op} (h : evalOp I ρ p = some op) :
    (∀ m, eomMarkP m p = eomMark m op) ∧
    ((∃ b, p = .measure b ∧ op = .measure b) ∨ ((∀ b, p ≠ .measure b) ∧ op.width ≠ .all)) := by
  cases p with
  | addEom n dur phase post proto corr fall ref =>
    obtain ⟨d, x, y, _, rfl⟩ := evalOp_addEom h
    exact ⟨fun _ => rfl, .inr ⟨fun _ hp => (by cases hp), fun hw => (by cases hw)⟩⟩
  | phaseShift phi qs b =>
    obtain ⟨x, l, _, rfl⟩ := evalOp_phaseShift h
    exact ⟨fun _ => rfl, .inr ⟨fun _ hp => (by cases hp), fun hw => (by cases hw)⟩⟩
  | measure b => cases h; exact ⟨fun _ => rfl, .inl ⟨b, rfl, rfl⟩⟩
  | align chs atRest => cases h; exact ⟨fun _ => rfl, .inr ⟨fun _ hp => (by cases hp), fun hw => (by cases hw)⟩⟩
  | disableEom n corr => cases h; exact ⟨fun _ => rfl, .inr ⟨fun _ hp => (by cases hp), fun hw => (by cases hw)⟩⟩
  | _ =>
    obtain ⟨_, _, rfl⟩ := Option.map_eq_some_iff.mp h
    exact ⟨fun _ => rfl, .inr ⟨fun _ hp => (by cases hp), fun hw => (by cases hw)⟩⟩

theorem agree_step (I : Interp) (ρ : Assign) {t : Tmpl} {s : SeqState} {p : POp} {op : Op}
    (ha : Agree t s) (hev : evalOp I ρ p = some op) (hok : (stepRaw s op).err = none) :
    Agree (storeT t p) (stepRaw s op).st := by
  obtain ⟨hmk, ⟨b, rfl, rfl⟩ | ⟨hnm, hw⟩⟩ := evalOp_kind hev
  · rw [measure_step hok]
    exact ⟨ha.nQ, ha.dev, ha.inXY, ha.sig, fun m => by rw [inEomT_store]; exact ha.mode m, rfl, ha.bases⟩
  · have hx : SameX s (stepRaw s op).st := stepRaw_sameX hw
    refine ⟨hx.nQ.trans ha.nQ, hx.dev.trans ha.dev, hx.inXY.trans ha.inXY,
      fun m => (hx.sigOf m).trans (ha.sig m), fun m => ?_, ?_, hx.bases.trans ha.bases⟩
    · rw [inEomT_store, hmk m]
      exact stepRaw_marks (P := fun mo mk => mo = none ∨ mo = some mk) (fun b => .inr rfl)
        (fun h => by rcases h with h | h <;> cases h; rfl) hok hw ha.mode m
    · rw [hx.measured, ha.meas]
      unfold storeT
      cases p <;> first | rfl | exact absurd rfl (hnm _)

/-- Every stored call of the list passes its store-time checks, one after the other. -/
def acceptsAll (t : Tmpl) : List POp → Bool
  | [] => true
  | p :: rest => (storeCheck t p).isNone && acceptsAll (storeT t p) rest

theorem acceptsAll_of_direct (I : Interp) (ρ : Assign) {t : Tmpl} {s s' : SeqState} {k : Nat}
    {stored : List POp} {ops : List Op} (ha : Agree t s) (hev : evalOps I ρ stored = some ops)
    (hrun : runAllFrom k s ops = .ok s') (hnd : ∀ p ∈ stored, targetsDistinct I ρ p) :
    acceptsAll t stored = true := by
  induction stored generalizing t s k ops with
  | nil => rfl
  | cons p rest ih =>
    simp only [evalOps] at hev
    split at hev
    · rename_i op os h1 h2
      cases hev
      obtain ⟨he, hrun⟩ := runAllFrom_cons_ok.mp hrun
      unfold acceptsAll
      rw [store_accepts_of_direct I ρ ha h1 he (hnd p List.mem_cons_self)]
      exact ih (agree_step I ρ ha h1 he) h2 hrun (fun q hq => hnd q (List.mem_cons_of_mem _ hq))
    · cases hev

theorem agree_init {pre : SeqState} (vars : List (Nat × Nat)) (hi : PreInv pre) (hm : pre.measured = none) :
    Agree { pre := pre, stored := [], vars := vars, param := true, paramMeas := none } pre := by
  refine ⟨rfl, rfl, rfl, fun m => rfl, ?_, by rw [hm], rfl⟩
  intro m
  rcases hi m with ⟨h1, _⟩ | h1
  · left; exact h1
  · right
    rw [h1]
    unfold inEomT markOf
    simp only [List.reverse_nil, List.findSome?_nil]
    cases pre.calls.reverse.findSome? (eomMark m) <;> rfl

end Param
end Pulser
