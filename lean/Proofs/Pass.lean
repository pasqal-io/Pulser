/-
  Proofs.Pass — lifting a relation between the old and the new state of a channel to whole
  sequences and histories: a pass proves its relation for every channel operation (`ChanPrim`),
  for fresh channels and for oracle answers, and gets it for every call and every history.
-/
import Proofs.SeqInv
namespace Pulser

/-- A reflexive, transitive relation `R` between successive states of a channel, and a
property `N` of channels that fresh channels have and that `R` carries along. -/
structure CRel where
  R : ChanState → ChanState → Prop
  N : ChanState → Prop
  refl : ∀ c, R c c
  trans : ∀ {a b c}, R a b → R b c → R a c
  step : ∀ {c c'}, N c → R c c' → N c'

/-- Good successor: old channels are `R`-related in place, channels beyond them satisfy `N`. -/
def SX (X : CRel) (s s' : SeqState) : Prop :=
  SG s s' ∧
  (∀ (i : Nat) (c : ChanState), s.chans[i]? = some c → ∃ c', s'.chans[i]? = some c' ∧ X.R c c') ∧
  (∀ (i : Nat) (c' : ChanState), s.chans.length ≤ i → s'.chans[i]? = some c' → X.N c')

variable {X : CRel}

theorem SX_of_chans_eq {s s' : SeqState} (h : SeqInv s) (h1 : s'.chans = s.chans)
    (h2 : s'.dev = s.dev) (h3 : s'.nQ = s.nQ) : SX X s s' :=
  ⟨SG_of_chans_eq h h1 h2 h3, fun i c hc => ⟨c, by rw [h1]; exact hc, X.refl c⟩,
   fun i c' hi hc => by
    rw [h1] at hc
    exact absurd (List.getElem?_eq_some_iff.mp hc).1 (Nat.not_lt.mpr hi)⟩

theorem SX.rfl' {s : SeqState} (h : SeqInv s) : SX X s s := SX_of_chans_eq h rfl rfl rfl

theorem SX.trans {a b c : SeqState} (h1 : SX X a b) (h2 : SX X b c) : SX X a c := by
  refine ⟨SG.trans h1.1 h2.1, ?_, ?_⟩
  · intro i x hx
    obtain ⟨y, hy, k1⟩ := h1.2.1 i x hx
    obtain ⟨z, hz, k2⟩ := h2.2.1 i y hy
    exact ⟨z, hz, X.trans k1 k2⟩
  · intro i z hi hz
    by_cases hlt : i < b.chans.length
    · have hy : b.chans[i]? = some b.chans[i] := List.getElem?_eq_getElem hlt
      obtain ⟨z', hz', k⟩ := h2.2.1 i _ hy
      rw [hz] at hz'; injection hz' with hz'; subst hz'
      exact X.step (h1.2.2 i _ hi hy) k
    · exact h2.2.2 i z (Nat.le_of_not_lt hlt) hz

theorem SX.mem {s s' : SeqState} (h : SX X s s') {c' : ChanState} (hc' : c' ∈ s'.chans) :
    (∃ c ∈ s.chans, X.R c c') ∨ X.N c' := by
  obtain ⟨i, hget⟩ := List.mem_iff_getElem?.mp hc'
  by_cases hlt : i < s.chans.length
  · obtain ⟨z, hz, k⟩ := h.2.1 i _ (List.getElem?_eq_getElem hlt)
    cases hget.symm.trans hz
    exact .inl ⟨_, List.getElem_mem hlt, k⟩
  · exact .inr (h.2.2 i _ (Nat.le_of_not_lt hlt) hget)

theorem SX.keeps {s s' : SeqState} (h : SX X s s') (hl : ∀ c ∈ s.chans, X.N c) :
    ∀ c ∈ s'.chans, X.N c := fun _ hc' =>
  (h.mem hc').elim (fun ⟨c, hc, k⟩ => X.step (hl c hc) k) id

theorem setChan_SX {s : SeqState} {n : ChName} {c c' : ChanState} (hi : SeqInv s)
    (hc : s.getChan n = some c) (hg : Good s.dev.maxSeqDur c c') (hk : X.R c c') :
    SX X s (s.setChan c') := by
  refine ⟨setChan_SG hi hc hg, setChan_rel X.refl hc hg.2.2.1 hk, fun i x hi' hx => ?_⟩
  obtain ⟨k, _, he⟩ := setChan_eq_set hc hg.2.2.1
  have h1 := (List.getElem?_eq_some_iff.mp hx).1
  rw [he, List.length_set] at h1
  exact absurd h1 (Nat.not_lt.mpr hi')

theorem addChannel_SX {s : SeqState} {c : ChanState} (hi : SeqInv s) (hc : ChanInv s.dev.maxSeqDur c)
    (hl : X.N c) : SX X s (s.addChannel c) := by
  refine ⟨addChannel_SG hi hc, ?_, ?_⟩ <;> rw [addChannel_eq]
  · intro i x hx
    refine ⟨x, ?_, X.refl x⟩
    show (s.chans ++ [c])[i]? = some x
    rw [List.getElem?_append_left (List.getElem?_eq_some_iff.mp hx).1]; exact hx
  · intro i c' hi' (hc' : (s.chans ++ [c])[i]? = some c')
    rw [List.getElem?_append_right hi'] at hc'
    cases List.mem_singleton.mp (List.mem_of_getElem? hc')
    exact hl

/-- What a pass has to show of the channel operations and of oracle answers, for the device and
the register of the histories it speaks of. -/
structure Pass (X : CRel) (dev : Device) (nQ : Nat) : Prop where
  chan : ∀ {w c c'}, ChanPrim dev.maxSeqDur nQ w c c' → ChanInv dev.maxSeqDur c → X.R c c'
  oracle : ∀ c e, X.R c { c with ddOracle := e :: c.ddOracle }

/-- What a pass has to show of the channels a declaration creates: needed for calls that may
declare one. -/
def Fresh (X : CRel) (dev : Device) (nQ : Nat) : Prop :=
  DevOk dev ∧ ∀ {cfg}, cfg ∈ dev.chans ∨ cfg ∈ dev.dmms → ∀ name chId tg a b,
    X.N (SeqState.freshChan name chId cfg (List.range nQ) tg a b)

theorem Pass.move {w : Width} {s s' : SeqState} (hX : Pass X s.dev s.nQ) (h : Move w s s')
    (hF : w = .all → Fresh X s.dev s.nQ) (hi : SeqInv s) : SX X s s' := by
  cases h with
  | prim h =>
    cases h with
    | chan hc h =>
      have hci := hi _ (getChan_mem hc).1
      exact setChan_SX hi hc (h.good hci) (hX.chan h hci)
    | shift | used => rw [mapRefs_eq]; exact SX_of_chans_eq hi rfl rfl rfl
    | nonEmpty | measure => exact SX_of_chans_eq hi rfl rfl rfl
    | declare hw hcfg =>
      exact addChannel_SX hi (freshChan_inv ((hF hw).1.clock hcfg)) ((hF hw).2 hcfg ..)
  | record => exact SX_of_chans_eq hi rfl rfl rfl
  | oracle n d du fs fe =>
    obtain ⟨h1, _, h3⟩ := injectOracle_rel X.refl hX.oracle s n d du fs fe
    refine ⟨injectOracle_SG hi n d du fs fe, h1, fun i c' hi' hc' => ?_⟩
    exact absurd (h3 ▸ (List.getElem?_eq_some_iff.mp hc').1) (Nat.not_lt.mpr hi')

theorem Pass.steps {w : Width} {s s' : SeqState} (hX : Pass X s.dev s.nQ) (h : Steps (Move w) s s')
    (hF : w = .all → Fresh X s.dev s.nQ) (hi : SeqInv s) : SX X s s' :=
  Steps.lift (I := fun a => a.dev = s.dev ∧ a.nQ = s.nQ ∧ SeqInv a) (fun h => SX.rfl' h.2.2) SX.trans
    (fun h g => ⟨g.1.2.1.trans h.1, g.1.2.2.1.trans h.2.1, g.1.1⟩)
    (fun {a _} h m => Pass.move (by rw [h.1, h.2.1]; exact hX) m (by rw [h.1, h.2.1]; exact hF) h.2.2)
    h ⟨rfl, rfl, hi⟩

def RX (X : CRel) (s : SeqState) (r : Raw) : Prop := SX X s r.st

end Pulser
