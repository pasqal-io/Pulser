/-
  Proofs.EomInv — the EOM-mode invariant of a channel (C15), on the scheduler primitives, and then on
  every channel of every reachable sequence (the pass `passE` over the channel operations, failing
  calls and oracle answers included).

  `EIc c`: every pulse that starts inside an EOM block is square with the block's setpoint
  (or is the zero-amplitude pulse at the block's off-detuning), blocks are closed in the past,
  only the latest block can be open, and channels without an EOM (DMMs) have no block.
-/
import Proofs.Protocol
import Proofs.Pass
namespace Pulser

/-- The slot starts inside the block (blocks are half-open intervals `[ti, tf)`; an open block
has no end yet). -/
def InBlock (b : EomBlock) (sl : Slot) : Prop := b.ti ≤ sl.ti ∧ ∀ t, b.tf = some t → sl.ti < t

/-- Square pulse at the block's setpoint, or zero amplitude at the block's off-detuning. -/
def SquareFor (b : EomBlock) (p : PulseRec) : Prop :=
  p.const = true ∧ ((p.amp = b.amp ∧ p.det = b.detOn) ∨ (p.amp = 0 ∧ p.det = b.detOff))

/-- The EOM invariant of a channel.  `dmm` and `minPos` are facts of the channel's configuration
(`DevOkE`); they ride along so that a fresh channel supplies them once. -/
structure EIc (c : ChanState) : Prop where
  sq : ∀ sl ∈ c.slots, ∀ p, sl.kind = .pulse p → ∀ b ∈ c.eom, InBlock b sl → SquareFor b p
  closed : ∀ b ∈ c.eom, ∀ t, b.tf = some t → t ≤ c.getDuration false
  onlyLast : ∀ b ∈ c.eom.dropLast, b.tf ≠ none
  noCfg : c.cfg.eom = none → c.eom = []
  dmm : c.cfg.isDmm = true → c.cfg.eom = none
  minPos : 0 < c.cfg.minDur

/-- `c'` extends `c` and keeps the EOM invariant. -/
def EG (c c' : ChanState) : Prop := Ext c c' ∧ (EIc c → EIc c')

theorem EG.rfl' (c : ChanState) : EG c c := ⟨Ext.refl c, fun h => h⟩
theorem EG.trans {a b c : ChanState} (h1 : EG a b) (h2 : EG b c) : EG a c :=
  ⟨h1.1.trans h2.1, fun h => h2.2 (h1.2 h)⟩

theorem open_is_last {l : List EomBlock} (h : ∀ b ∈ l.dropLast, b.tf ≠ none) {b : EomBlock}
    (hb : b ∈ l) (ho : b.tf = none) : l.getLast? = some b := by
  induction l with
  | nil => cases hb
  | cons a rest ih =>
    cases rest with
    | nil => simp at hb; subst hb; rfl
    | cons a2 rest2 =>
      have hd : (a :: a2 :: rest2).dropLast = a :: (a2 :: rest2).dropLast := rfl
      rw [hd] at h
      rcases List.mem_cons.mp hb with hh | hh
      · subst hh; exact absurd ho (h _ List.mem_cons_self)
      · have := ih (fun x hx => h x (List.mem_cons_of_mem _ hx)) hh
        simpa using this

theorem EI_snoc {c : ChanState} {last x : Slot} (hl : c.last = .ok last) (hti : x.ti = last.tf)
    (htf : last.tf ≤ x.tf)
    (hp : ∀ p, x.kind = .pulse p → ∀ b, c.eom.getLast? = some b → b.tf = none → SquareFor b p)
    (h : EIc c) : EIc { c with slots := c.slots ++ [x] } := by
  have hd := getDuration_false_last hl
  refine ⟨?_, ?_, h.onlyLast, h.noCfg, h.dmm, h.minPos⟩
  · intro sl hsl p hk b hb hin
    rcases List.mem_append.mp hsl with hs | hs
    · exact h.sq sl hs p hk b hb hin
    · simp at hs; subst hs
      cases hbt : b.tf with
      | none => exact hp p hk b (open_is_last h.onlyLast hb hbt) hbt
      | some t =>
        -- a closed block ended by `last.tf`, where `x` starts
        exact absurd (hti ▸ hin.2 t hbt) (Int.not_lt.mpr (hd ▸ h.closed b hb t hbt))
  · intro b hb t hbt
    rw [getDuration_false_snoc]
    exact Int.le_trans (hd ▸ h.closed b hb t hbt) htf

/-- `add_delay` keeps the EOM invariant: while idling in an open block with a non-zero
off-detuning the channel plays the zero-amplitude pulse at that off-detuning. -/
theorem addDelay_eg {ms : Option Nat} {c c' : ChanState} {d : Nat} (hi : ChanInv ms c)
    (h : addDelay ms c d = .ok c') : EG c c' := by
  refine ⟨(addDelay_inv hi h).2, fun hei => ?_⟩
  obtain ⟨last, d', k, hl, _, _, rfl, hk⟩ := addDelay_shape h
  refine EI_snoc hl rfl (le_add_dur _ _) (fun p hp b' hb' _ => ?_) hei
  rcases hk with ⟨rfl, _⟩ | ⟨b, q, hb, _, _, hm, rfl⟩
  · cases hp
  · injection hp with hp; subst hp
    rw [hb] at hb'; injection hb' with hb'; subst hb'
    obtain ⟨_, _, h1, h2, h3, _⟩ := mkDetunedDelay_spec hm
    exact ⟨h1, .inr ⟨h2, h3⟩⟩

theorem waitForFall_eg {ms : Option Nat} {c c' : ChanState} (hi : ChanInv ms c)
    (h : waitForFall ms c = .ok c') : EG c c' := by
  rcases waitForFall_cases h with ⟨rfl, _⟩ | ⟨d, _, _, h⟩
  · exact EG.rfl' _
  · exact addDelay_eg hi h

theorem lift_eg {c : ChanState} {e : Except Err ChanState} (h : ∀ c', e = .ok c' → EG c c') :
    EG c (CRes.lift c e).c :=
  CRes.lift_rel (EG.rfl' c) h

/-- Good step that keeps the EOM invariant. -/
def GE (ms : Option Nat) (c c' : ChanState) : Prop := Good ms c c' ∧ EG c c'

theorem GE.rfl' {ms : Option Nat} {c : ChanState} (h : ChanInv ms c) : GE ms c c := ⟨Good.rfl' h, EG.rfl' c⟩
theorem GE.trans {ms : Option Nat} {a b c : ChanState} (h1 : GE ms a b) (h2 : GE ms b c) : GE ms a c :=
  ⟨h1.1.trans h2.1, h1.2.trans h2.2⟩

theorem lift_ge {ms : Option Nat} {c : ChanState} {e : Except Err ChanState} (hi : ChanInv ms c)
    (h : ∀ c', e = .ok c' → GE ms c c') : GE ms c (CRes.lift c e).c :=
  CRes.lift_rel (GE.rfl' hi) h

theorem bind_ge {ms : Option Nat} {c : ChanState} {r : CRes} {f : ChanState → CRes} (hr : GE ms c r.c)
    (hf : ∀ c1, ChanInv ms c1 → GE ms c1 (f c1).c) : GE ms c (r.bind f).c := by
  unfold CRes.bind
  cases r.err with
  | none => exact hr.trans (hf _ hr.1.1)
  | some e => exact hr

theorem addDelay_ge {ms : Option Nat} {c c' : ChanState} {d : Nat} (hi : ChanInv ms c)
    (h : addDelay ms c d = .ok c') : GE ms c c' := ⟨addDelay_inv hi h, addDelay_eg hi h⟩

theorem waitForFall_ge {ms : Option Nat} {c c' : ChanState} (hi : ChanInv ms c)
    (h : waitForFall ms c = .ok c') : GE ms c c' := ⟨waitForFall_inv hi h, waitForFall_eg hi h⟩

theorem addTargetTail_eg {ms : Option Nat} {c c' : ChanState} {qs : List Nat}
    (h : addTargetTail ms c qs = .ok c') : EIc c → EIc c' := by
  obtain ⟨last, delta, hl, _, _, rfl⟩ := addTargetTail_shape h
  exact EI_snoc hl rfl (le_add_dur _ _) (fun p hk => by cases hk)

theorem addTarget_ge {ms : Option Nat} {c : ChanState} {qs : List Nat} (hi : ChanInv ms c) :
    GE ms c (addTarget ms c qs).c := by
  refine ⟨addTarget_inv hi, (addTarget_inv hi).2, ?_⟩
  rcases addTarget_cases ms c qs with h | ⟨he, _, h⟩ | ⟨c1, hw, h | h⟩ <;> try rw [h]
  · exact fun h => h
  · intro h
    refine ⟨?_, ?_, h.onlyLast, h.noCfg, h.dmm, h.minPos⟩
    · intro sl hsl p hk
      simp only [he, List.nil_append, List.mem_singleton] at hsl
      subst hsl; cases hk
    · intro b hb t hbt
      rw [getDuration_false_snoc]
      have := h.closed b hb t hbt
      have hd0 : c.getDuration false = 0 := by unfold ChanState.getDuration; rw [he]; rfl
      simp only; omega
  · exact (waitForFall_eg hi hw).2
  · exact fun hei => addTargetTail_eg h ((waitForFall_eg hi hw).2 hei)

theorem addPulse_eg {ms : Option Nat} {c c' : ChanState} {others : List ChanState}
    {p : PulseRec} {barriers : List Int} {proto : Protocol} {drift : Option Drift}
    (hi : ChanInv ms c)
    (hsq : EIc c → ∀ b, c.eom.getLast? = some b → b.tf = none → SquareFor b p)
    (h : addPulse ms c others p barriers proto drift = .ok c') : EIc c → EIc c' := by
  intro hei
  obtain ⟨last, slot, c1, x, hl, hm, hc1, hl1, hx, _, rfl⟩ := addPulse_shape hi.1 h
  obtain ⟨delay, ph, _, _, _, rfl⟩ := makeNextPulseSlot_shape hl hm
  have he1 : EIc c1 ∧ c1.eom = c.eom := by
    rcases hc1 with rfl | ⟨d, had⟩
    · exact ⟨hei, rfl⟩
    · exact ⟨(addDelay_eg hi had).2 hei, by rw [addDelay_onlySlots had]⟩
  refine EI_snoc hl1 hx.symm (hx ▸ le_add_dur _ _)
    (fun q hq b hb ho => ?_) he1.1
  injection hq with hq; subst hq
  rw [he1.2] at hb
  -- the scheduler sets the phase and the protocol tag only: the waveforms are those of `p`
  exact hsq hei b hb ho

theorem all_closed {c : ChanState} (h : EIc c) (hne : c.inEomMode = false) :
    ∀ b ∈ c.eom, b.tf ≠ none := by
  intro b hb ho
  exact inEomMode_false hne (open_is_last h.onlyLast hb ho) ho

theorem EI_open {ms : Option Nat} {c : ChanState} {last : Slot} (hi : ChanInv ms c)
    (hl : c.last = .ok last) (hne : c.inEomMode = false) (hcfg : c.cfg.eom ≠ none)
    (a d1 d2 : Rat) (h : EIc c) :
    EIc { c with eom := c.eom ++ [⟨last.tf, none, a, d1, d2⟩] } := by
  obtain ⟨rest, hr⟩ := last_ok hl
  have hinv := hi.2; rw [hr] at hinv
  refine ⟨?_, ?_, ?_, fun hc => absurd hc hcfg, h.dmm, h.minPos⟩
  · intro sl hsl p hk b hb hin
    rcases List.mem_append.mp hb with hb | hb
    · exact h.sq sl hsl p hk b hb hin
    · obtain rfl := List.mem_singleton.mp hb
      -- a pulse lasts at least `min_duration > 0` and ends by `last.tf`: it started before
      have hmem : sl ∈ last :: rest := hr ▸ List.mem_reverse.mpr hsl
      have hlen := InvR_pulse hinv sl hmem p hk
      have hle : sl.tf ≤ last.tf := DescTf_le_head (InvR_DescTf hinv) sl hmem
      have h1 : last.tf ≤ sl.ti := hin.1
      have hmin : 0 < c.cfg.minDur := h.minPos
      have h2 : c.cfg.minDur ≤ p.dur := hlen.2.1
      have h3 := hlen.1
      omega
  · intro b hb t hbt
    rw [getDuration_false_eom]
    rcases List.mem_append.mp hb with hb | hb
    · exact h.closed b hb t hbt
    · obtain rfl := List.mem_singleton.mp hb; cases hbt
  · intro b hb
    rw [List.dropLast_concat] at hb
    exact all_closed h hne b hb

theorem EI_close {c : ChanState} {last : Slot} (hl : c.last = .ok last) (hin : c.inEomMode = true)
    (h : EIc c) : EIc { c with eom := closeLastBlock c.eom last.tf } := by
  obtain ⟨b, hg, hopen⟩ := inEomMode_iff.mp hin
  have hb : b ∈ c.eom := List.mem_of_getLast? hg
  have hd := getDuration_false_last hl
  show EIc { c with eom := closeLastBlock c.eom last.tf }
  rw [closeLastBlock_eq _ _ _ hg]
  refine ⟨?_, ?_, ?_, ?_, h.dmm, h.minPos⟩
  · intro sl hsl p hk b' hb' hinb
    rcases List.mem_append.mp hb' with hb' | hb'
    · exact h.sq sl hsl p hk b' (List.dropLast_subset _ hb') hinb
    · obtain rfl := List.mem_singleton.mp hb'
      exact h.sq sl hsl p hk b hb ⟨hinb.1, fun t ht => by rw [hopen] at ht; cases ht⟩
  · intro b' hb' t hbt
    rw [getDuration_false_eom]
    rcases List.mem_append.mp hb' with hb' | hb'
    · exact h.closed b' (List.dropLast_subset _ hb') t hbt
    · obtain rfl := List.mem_singleton.mp hb'
      obtain rfl : last.tf = t := Option.some.inj hbt
      exact Int.le_of_eq hd.symm
  · intro b' hb'
    rw [List.dropLast_concat] at hb'
    exact h.onlyLast b' hb'
  · intro hc
    have := h.noCfg hc
    rw [this] at hg; cases hg

/-- Outside EOM mode the waiting steps keep the invariant: no block is open that the idle pulse of
`enable_eom` would have to match. -/
theorem Wait.ge {ms : Option Nat} {c c' : ChanState} (hi : ChanInv ms c) (hne : c.inEomMode = false)
    (h : Wait ms c c') : GE ms c c' := by
  rcases h with rfl | ⟨d, h⟩ | ⟨d0, d, x, p, ha, hm, h⟩
  · exact GE.rfl' hi
  · exact addDelay_ge hi h
  · have hpk := mkDetunedDelay_pulseOk hi.1 ha hm
    have hg := addPulse_inv hi hpk.1 hpk.2 h
    exact ⟨hg, hg.2, addPulse_eg hi (fun _ b hb ho => absurd ho (inEomMode_false hne hb)) h⟩

/-- **`enable_eom`** on a channel that has an EOM and is not in EOM mode: the waiting steps
keep the invariant and (`Wait.frame`) the blocks, then the new block is opened at the channel's end. -/
theorem enableEom_ge {ms : Option Nat} {c : ChanState} {amp detOn detOff : Rat} {sb sw : Bool}
    (hi : ChanInv ms c) (hne : c.inEomMode = false) (hcfg : c.cfg.eom ≠ none) :
    GE ms c (enableEom ms c amp detOn detOff sb sw).c := by
  obtain ⟨c1, c2, w1, w2, h⟩ := enableEom_shape ms c amp detOn detOff sb sw
  have hne1 : c1.inEomMode = false := by rw [w1.frame]; exact hne
  have hne2 : c2.inEomMode = false := by rw [w2.frame]; exact hne1
  have g1 := w1.ge hi hne
  have g2 := g1.trans (w2.ge g1.1.1 hne1)
  rcases h with ⟨h, _⟩ | ⟨last, hl, h⟩ <;> rw [h]
  · exact g2
  · exact g2.trans ⟨Good_eom g2.1.1 _, Ext.refl c2,
      EI_open g2.1.1 hl hne2 (by rw [g2.1.2.1]; exact hcfg) amp detOn detOff⟩

/-- **`disable_eom`** on a channel in EOM mode: the open block is closed at the channel's end,
the buffer / fall wait that follows is ordinary operation.  Afterwards the channel is not in
EOM mode and still has its blocks (when no error stopped the call before the block was closed). -/
theorem disableEom_ge {ms : Option Nat} {c : ChanState} {sb : Bool}
    (hi : ChanInv ms c) (hin : c.inEomMode = true) :
    GE ms c (disableEom ms c sb).c ∧
    ((disableEom ms c sb).err = none →
      (disableEom ms c sb).c.inEomMode = false ∧ (disableEom ms c sb).c.eom ≠ []) := by
  refine ⟨?_, disableEom_mode hin⟩
  rcases disableEom_shape ms c sb with ⟨h, _⟩ | ⟨last, hl, w⟩
  · rw [h]; exact GE.rfl' hi
  · have hg1 : GE ms c { c with eom := closeLastBlock c.eom last.tf } :=
      ⟨Good_eom hi _, Ext.refl c, EI_close hl hin⟩
    exact hg1.trans (w.ge hg1.1.1 (closeLastBlock_mode c.eom last.tf))

/-! ### Whole sequences: every call, every history -/

/-- The relation of the EOM pass. -/
def XE : CRel where
  R := EG
  N := EIc
  refl := EG.rfl'
  trans := EG.trans
  step := fun hn hr => hr.2 hn

/-- Device facts used by the EOM invariant: minimum durations are positive and DMMs have no EOM. -/
def DevOkE (d : Device) : Prop :=
  (∀ c ∈ d.chans, 0 < c.minDur ∧ (c.isDmm = true → c.eom = none)) ∧
  (∀ c ∈ d.dmms, 0 < c.minDur ∧ (c.isDmm = true → c.eom = none))

theorem freshChan_ei {name : ChName} {chId : Nat} {cfg : ChanCfg} {qs : List Nat} {w : Bool}
    {a b : Rat} (h : 0 < cfg.minDur ∧ (cfg.isDmm = true → cfg.eom = none)) :
    EIc (SeqState.freshChan name chId cfg qs w a b) :=
  ⟨fun _ _ _ _ b hb => (by cases hb), fun b hb => (by cases hb), fun b hb => (by cases hb),
   fun _ => rfl, h.2, h.1⟩

/-- The EOM pass.  A pulse added while a block is open is square at the block's setpoint
(`EomShape`; a DMM channel has no block); a block is opened on a channel that has an EOM (it has
one when it has had a block) and is not in EOM mode, and closed on one that is. -/
theorem passE (dev : Device) (nQ : Nat) : Pass XE dev nQ where
  chan h hi := by
    cases h with
    | target qs => exact (addTarget_ge hi).2
    | wait h => exact (waitForFall_ge hi h).2
    | delay h => exact (addDelay_ge hi h).2
    | pulse hv ha he =>
      have hva := validateAndAdjust_ok hi.1 hv
      obtain ⟨_, _, _, _, hf⟩ := validateAndAdjust_iff.mp hv
      refine ⟨(addPulse_inv hi hva.1 hva.2.1 ha).2, addPulse_eg hi (fun hE b hb ho => ?_) ha⟩
      rcases he b hb ho with hdmm | this
      · rw [hE.noCfg (hE.dmm hdmm)] at hb; cases hb
      · rw [hf]; exact ⟨this.1, .inl ⟨this.2.1, this.2.2⟩⟩
    | enable _ _ _ _ _ hm hc =>
      refine ⟨(enableEom_inv hi).2, fun hE => ?_⟩
      exact (enableEom_ge hi hm fun h0 => hc h0 (hE.noCfg h0)).2.2 hE
    | disable _ _ hm => exact (disableEom_ge hi hm).1.2
  oracle c _ := ⟨.oracle c _,
    fun hE => ⟨hE.sq, hE.closed, hE.onlyLast, hE.noCfg, hE.dmm, hE.minPos⟩⟩

theorem freshE {dev : Device} (nQ : Nat) (hd : DevOk dev) (hde : DevOkE dev) : Fresh XE dev nQ :=
  ⟨hd, fun h _ _ _ _ _ => freshChan_ei (h.elim (hde.1 _) (hde.2 _))⟩

/-- `modify_eom_setpoint` after validation: the open block is closed, then (not in EOM mode any
more) a new one is opened behind its buffer. -/
theorem RE_modifyEomCommit {s : SeqState} (hi : SeqInv s) {n : ChName} {c : ChanState} (e : EomIn)
    (detOff : Rat) (hgc : s.getChan n = some c) (hin : c.inEomMode = true) :
    RX XE s (modifyEomCommit s n c e detOff) :=
  (passE _ _).steps (modifyEomCommit_stored e detOff hgc hin).moves nofun hi

/-- Every API call keeps the EOM invariant (relation `SX XE`). -/
theorem stepRaw_RE {s : SeqState} (hd : DevOk s.dev) (hde : DevOkE s.dev) (hi : SeqInv s) (op : Op) :
    RX XE s (stepRaw s op) :=
  (passE _ _).steps (stepRaw_moves s op) (fun _ => freshE _ hd hde) hi

/-- The EOM invariant along whole histories. -/
theorem runEv_EI {s : SeqState} (hd : DevOk s.dev) (hde : DevOkE s.dev) (hi : SeqInv s)
    (hl : ∀ c ∈ s.chans, EIc c) (evs : List Ev) : ∀ c ∈ (runEv s evs).chans, EIc c :=
  ((passE _ _).steps (runEv_moves s evs) (fun _ => freshE _ hd hde) hi).keeps hl

end Pulser
