/-
  Proofs.ParamReplay — replay of the concrete prefix of a template for EVERY successful
  history (C08), on top of C09's `step_record` (Proofs/ReplayLog.lean): each successful call
  extends the record by a call whose replay gives the same result — for `enable_eom_mode` /
  `modify_eom_setpoint` the stored call carries the chosen off-detuning, and replaying it
  chooses it again when the options are distinct (`NodupOpts`).
-/
import Proofs.Param
import Proofs.ReplayLog
namespace Pulser
namespace Param

theorem replay_prefix_full {dev : Device} {nQ : Nat} {ops : List Op} {s : SeqState}
    (hn : ∀ op ∈ ops, NodupOpts op) (h : runAll (SeqState.init dev nQ) ops = .ok s) :
    run (SeqState.init s.dev s.nQ) s.calls = s := by
  obtain ⟨h1, h2, h3⟩ := runAllFrom_induct (fun s op => Replayable.step (s := s) op) hn ⟨rfl, rfl, rfl⟩ h
  rw [h1, h2]; exact h3

/-- **Replay of the concrete prefix**: a sequence built by successful self-stored calls is
reproduced by replaying its call log on a fresh sequence (what `build` does with `_calls`). -/
theorem replay_prefix {dev : Device} {nQ : Nat} {ops : List Op} {s : SeqState}
    (hs : ∀ op ∈ ops, selfStored op = true) (h : runAll (SeqState.init dev nQ) ops = .ok s) :
    run (SeqState.init s.dev s.nQ) s.calls = s :=
  replay_prefix_full (fun op hop => by have := hs op hop; cases op <;> first | exact trivial | cases this) h

end Param
end Pulser
