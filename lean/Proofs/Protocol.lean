/-
  Proofs.Protocol — `make_next_pulse_slot` and the backward scan of `_find_add_delay` (C03 / C10).
-/
import Proofs.Timeline
namespace Pulser

/-- The slot computed with `block_over_max_duration=True` (by `add`) is the slot computed
with `False` (by `estimate_added_delay`): the flag only decides between raising and warning. -/
theorem makeNext_blk_indep {ms : Option Nat} {c : ChanState} {others : List ChanState}
    {p : PulseRec} {barriers : List Int} {proto : Protocol} {drift : Option Drift} {slot : Slot}
    (h : makeNextPulseSlot ms c others p barriers proto drift true = .ok slot) :
    makeNextPulseSlot ms c others p barriers proto drift false = .ok slot := by
  unfold makeNextPulseSlot at h ⊢
  cases hl : c.last with
  | error e => simp [hl] at h
  | ok last =>
    simp only [hl] at h ⊢
    split at h
    · cases h
    · rename_i delay hdl
      simp only [Bool.false_eq_true, if_false]
      split at h
      · cases h
      · exact h

theorem makeNextPulseSlot_ge {ms : Option Nat} {c : ChanState} {others : List ChanState}
    {p : PulseRec} {barriers : List Int} {proto : Protocol} {drift : Option Drift} {blk : Bool}
    {slot last : Slot} (hc : 0 < c.cfg.clock) (hl : c.last = .ok last)
    (h : makeNextPulseSlot ms c others p barriers proto drift blk = .ok slot) :
    curMaxOf others last barriers proto ≤ slot.ti ∧
    last.tf + phaseJumpBuffer c last.tf
      (fmtPhase (correctedPhase p drift (curMaxOf others last barriers proto))) proto ≤ slot.ti := by
  obtain ⟨delay, _, h1, _, _, _, _, _, _, hneed⟩ := makeNextPulseSlot_spec hc hl h
  rw [h1]
  exact ⟨Int.le_add_of_sub_left_le (Int.le_trans (Int.le_max_left _ _) hneed.2.2),
    Int.add_le_add_left (Int.le_trans (Int.le_max_right _ _) hneed.2.2) _⟩

/-- The most recent pulse slot of a channel, on the reversed instruction list. -/
def firstPulse : List Slot → Option (Slot × PulseRec)
  | [] => none
  | s :: rest => match s.kind with
    | .pulse p => some (s, p)
    | _ => firstPulse rest

/-- End times are non-increasing along the reversed instruction list. -/
def DescTf : List Slot → Prop
  | [] => True
  | [_] => True
  | a :: b :: rest => b.tf ≤ a.tf ∧ DescTf (b :: rest)

theorem DescTf_tail {a : Slot} {l : List Slot} (h : DescTf (a :: l)) : DescTf l := by
  cases l with
  | nil => trivial
  | cons b rest => exact h.2

theorem DescTf_le {a : Slot} {l : List Slot} (h : DescTf (a :: l)) : ∀ q ∈ l, q.tf ≤ a.tf := by
  induction l generalizing a with
  | nil => intro q hq; cases hq
  | cons b rest ih =>
    intro q hq
    rcases List.mem_cons.mp hq with hq | hq
    · subst hq; exact h.1
    · have := ih h.2 q hq; have := h.1; omega

theorem DescTf_le_head {a : Slot} {l : List Slot} (h : DescTf (a :: l)) : ∀ q ∈ a :: l, q.tf ≤ a.tf :=
  List.forall_mem_cons.mpr ⟨Int.le_refl _, DescTf_le h⟩

theorem InvR_DescTf {x : Ctx} {l : List Slot} (h : InvR x l) : DescTf l := by
  induction l with
  | nil => trivial
  | cons a rest ih =>
    cases rest with
    | nil => trivial
    | cons b rest' =>
      obtain ⟨⟨h1, h2, _⟩, h3⟩ := h
      exact ⟨by omega, ih h3⟩

theorem firstPulse_mem {l : List Slot} {q : Slot} {pq : PulseRec} (h : firstPulse l = some (q, pq)) :
    q ∈ l ∧ q.kind = .pulse pq := by
  induction l with
  | nil => cases h
  | cons s rest ih =>
    unfold firstPulse at h
    split at h
    · rename_i p hp
      injection h with h; injection h with h1 h2; subst h1 h2
      exact ⟨List.mem_cons_self, hp⟩
    · have := ih h
      exact ⟨List.mem_cons_of_mem _ this.1, this.2⟩

/-- **The scan of `_find_add_delay` over one other channel never returns before the end
(fall time included) of that channel's most recent pulse, when that pulse shares a target
(or the protocol is 'wait-for-all')** — provided fall times are at most twice the rise time
(hypothesis A1), which is what makes the early `break` on idle slots sound. -/
theorem scan_ge (r2 : Nat) (inEom : Bool) (myT : List Nat) (wa : Bool) :
    ∀ (l : List Slot) (cur : Int), DescTf l →
      (∀ s ∈ l, ∀ p, s.kind = .pulse p → p.fall inEom ≤ r2) →
      ∀ q pq, firstPulse l = some (q, pq) →
        (q.targets.any (myT.contains ·) || wa) = true →
        q.tf + (pq.fall inEom : Nat) ≤ findAddDelayChan r2 inEom myT wa cur l := by
  intro l
  induction l with
  | nil => intro cur _ _ q pq h; cases h
  | cons op rest ih =>
    intro cur hd hA q pq hq hshare
    unfold findAddDelayChan
    unfold firstPulse at hq
    cases hk : op.kind with
    | pulse p =>
      simp only [hk] at hq ⊢
      injection hq with hq; injection hq with h1 h2; subst h1 h2
      by_cases h1 : op.tf + (p.fall inEom : Nat) ≤ cur
      · rw [if_pos h1]; exact h1
      · rw [if_neg h1, if_pos hshare]; exact Int.le_refl _
    | _ =>
      -- a delay or a target: the scan stops here only if it ended `r2` before `cur`
      simp only [hk] at hq ⊢
      by_cases h1 : op.tf + (r2 : Int) ≤ cur
      · rw [if_pos h1]
        have hm := firstPulse_mem hq
        exact Int.le_trans (Int.add_le_add (DescTf_le hd q hm.1)
          (Int.ofNat_le.mpr (hA q (List.mem_cons_of_mem _ hm.1) pq hm.2))) h1
      · rw [if_neg h1]
        exact ih cur (DescTf_tail hd) (fun s hs => hA s (List.mem_cons_of_mem _ hs)) q pq hq hshare

/-- The fold of `_find_add_delay` over all other channels is at least what the scan of any
single one of them returns at the time it is scanned, hence at least any bound `B` that
this scan guarantees from every starting value. -/
theorem findAddDelay_ge_of_chan (others : List ChanState) (myT : List Nat) (wa : Bool) (t0 : Int)
    (ch : ChanState) (hch : ch ∈ others) (B : Int)
    (hB : ∀ cur, B ≤ findAddDelayChan (2 * ch.modeRise) ch.inEomMode myT wa cur ch.slots.reverse) :
    B ≤ findAddDelay others myT wa t0 := by
  unfold findAddDelay
  induction others generalizing t0 with
  | nil => cases hch
  | cons a rest ih =>
    simp only [List.foldl_cons]
    rcases List.mem_cons.mp hch with h | h
    · subst h
      have h1 := hB t0
      have h2 := findAddDelay_ge rest myT wa
        (findAddDelayChan (2 * ch.modeRise) ch.inEomMode myT wa t0 ch.slots.reverse)
      unfold findAddDelay at h2
      omega
    · exact ih _ h

end Pulser
