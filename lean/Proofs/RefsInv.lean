/-
  Proofs.RefsInv — three invariants of the phase references along every history, one lemma per `Move`
  each: every tracker is well formed (`RefsOk`, C07); a basis that has references keeps them
  (`Keys.HasB`: no API call removes the references of an addressed basis); the basis of every declared
  channel has them (`BasesOk`: a declaration creates them, no call changes a channel's configuration).
-/
import Proofs.Phase
import Proofs.Same
namespace Pulser

/-- All trackers of all addressed bases are well formed. -/
def RefsOk (s : SeqState) : Prop := ∀ p ∈ s.refs, ∀ r ∈ p.2, TrOk r

theorem RefsOk.of_getRefs {s : SeqState} (h : RefsOk s) {b : Basis} {l : List QRef}
    (hg : s.getRefs b = some l) : ∀ r ∈ l, TrOk r :=
  h _ (getRefs_mem hg)

theorem mapRefs_ok {s : SeqState} (b : Basis) (qs : List Nat) (f : QRef → QRef)
    (hf : ∀ r, TrOk r → TrOk (f r)) (h : RefsOk s) : RefsOk (s.mapRefs b qs f) := by
  unfold SeqState.mapRefs
  cases hg : s.getRefs b with
  | none => exact h
  | some l =>
    simp only
    have hl := h.of_getRefs hg
    intro p hp r hr
    unfold SeqState.setRefs at hp
    simp only [List.mem_map] at hp
    obtain ⟨x, hx, hxp⟩ := hp
    by_cases hxb : (x.1 == b) = true
    · rw [if_pos hxb] at hxp
      subst hxp
      simp only [List.mem_map] at hr
      obtain ⟨⟨r0, i⟩, hri, hre⟩ := hr
      have hr0 : r0 ∈ l := by
        have := List.mem_zipIdx hri
        simp only [Nat.sub_zero] at this
        rw [this.2.2]; exact List.getElem_mem _
      simp only at hre
      split at hre
      · subst hre; exact hf r0 (hl r0 hr0)
      · subst hre; exact hl r0 hr0
    · rw [if_neg hxb] at hxp
      subst hxp; exact h x hx r hr

theorem addChannel_refs_ok {s : SeqState} (c : ChanState) (h : RefsOk s) : RefsOk (s.addChannel c) := by
  intro p hp r hr
  rcases addChannel_refs s c with ⟨e, _⟩ | e <;> rw [e] at hp
  · exact h p hp r hr
  · rcases List.mem_append.mp hp with hp | hp
    · exact h p hp r hr
    · cases List.mem_singleton.mp hp
      rw [(List.mem_replicate.mp hr).2]; exact TrOk_default

/-- References move by `incrementPhase` and `updateLastUsed` only, and a declaration adds
default trackers. -/
theorem Move.refsOk {w : Width} {s s' : SeqState} (h : Move w s s') (hr : RefsOk s) : RefsOk s' := by
  cases h with
  | prim h =>
    cases h with
    | chan | nonEmpty | measure => exact hr
    | shift phi => exact mapRefs_ok _ _ _ (fun r hr => (incrementPhase_spec r phi hr).2.2.2) hr
    | used t => exact mapRefs_ok _ _ _ (fun r hr => (updateLastUsed_spec r t hr).2.2) hr
    | declare => exact addChannel_refs_ok _ hr
  | record | oracle => exact hr

theorem runEv_refs (s : SeqState) (evs : List Ev) (h : RefsOk s) : RefsOk (runEv s evs) :=
  (runEv_moves s evs).keeps Move.refsOk h
namespace Keys

variable {b0 : Basis}

/-- Basis `b0` has phase references. -/
def HasB (b0 : Basis) (s : SeqState) : Prop := s.refs.any (·.1 == b0) = true

def KeepsB (b0 : Basis) (s : SeqState) (r : Raw) : Prop := HasB b0 s → HasB b0 r.st

theorem hasB_iff (s : SeqState) : HasB b0 s ↔ (s.getRefs b0).isSome = true := by
  unfold HasB SeqState.getRefs
  rw [Option.isSome_map, List.find?_isSome, List.any_eq_true]

theorem mapRefs_hasB {s : SeqState} (b : Basis) (qs : List Nat) (f : QRef → QRef) (h : HasB b0 s) :
    HasB b0 (s.mapRefs b qs f) := by
  rw [hasB_iff] at h ⊢
  rw [getRefs_mapRefs]
  by_cases hb : b0 = b
  · rw [if_pos hb, Option.isSome_map, ← hb]; exact h
  · rw [if_neg hb]; exact h

theorem addChannel_hasB {s : SeqState} (c : ChanState) (h : HasB b0 s) : HasB b0 (s.addChannel c) := by
  unfold HasB at *
  rcases addChannel_refs s c with ⟨e, _⟩ | e <;> rw [e]
  · exact h
  · rw [List.any_append, h]; rfl

theorem addChannel_has (s : SeqState) (c : ChanState) : HasB c.cfg.basis (s.addChannel c) := by
  unfold HasB
  rcases addChannel_refs s c with ⟨e, ha⟩ | e <;> rw [e]
  · exact ha
  · simp [List.any_append]

theorem Move.hasB {w : Width} {s s' : SeqState} (h : Move w s s') (hb : HasB b0 s) : HasB b0 s' := by
  cases h with
  | prim h =>
    cases h with
    | chan | nonEmpty | measure => exact hb
    | shift | used => exact mapRefs_hasB _ _ _ hb
    | declare => exact addChannel_hasB _ hb
  | record | oracle => exact hb

/-- Every API call keeps the phase references of an addressed basis. -/
theorem stepRaw_hasB (s : SeqState) (op : Op) : KeepsB b0 s (stepRaw s op) :=
  (stepRaw_moves s op).keeps Move.hasB

end Keys
open Keys Param

/-- The basis of every declared channel is addressed. -/
def BasesOk (s : SeqState) : Prop := ∀ c ∈ s.chans, HasB c.cfg.basis s

theorem hasB_of_bases {b : Basis} {s s' : SeqState} (h : s'.refs.map (·.1) = s.refs.map (·.1))
    (hb : HasB b s) : HasB b s' := by
  unfold HasB at *
  have e : ∀ l : List (Basis × List QRef), l.any (·.1 == b) = (l.map (·.1)).any (· == b) := by
    intro l; rw [List.any_map]; rfl
  rw [e] at hb ⊢
  rw [h]; exact hb

theorem BasesOk_of_sameX {s s' : SeqState} (h : SameX s s') (hb : BasesOk s) : BasesOk s' := by
  intro c' hc'
  have hm : sigX c' ∈ s'.chans.map sigX := List.mem_map_of_mem hc'
  rw [h.chans] at hm
  obtain ⟨c, hc, hsig⟩ := List.mem_map.mp hm
  rw [← sigX_cfg hsig]
  exact hasB_of_bases h.bases (hb c hc)

theorem BasesOk_of_eq {s s' : SeqState} (h1 : s'.chans = s.chans) (h2 : s'.refs = s.refs)
    (hb : BasesOk s) : BasesOk s' := by
  intro c hc
  rw [h1] at hc
  have := hb c hc
  unfold HasB at *
  rw [h2]; exact this

theorem BasesOk_addChannel {s : SeqState} (c : ChanState) (hb : BasesOk s) : BasesOk (s.addChannel c) := by
  intro x hx
  rw [addChannel_eq] at hx
  rcases List.mem_append.mp hx with hx | hx
  · exact addChannel_hasB c (hb x hx)
  · simp at hx; subst hx; exact addChannel_has s x

theorem injectOracle_bases (s : SeqState) (n : ChName) (d : Rat) (du fs fe : Nat) (hb : BasesOk s) :
    BasesOk (s.injectOracle n d du fs fe) := by
  intro c' hc'
  obtain ⟨c, hc, hr⟩ := (injectOracle_rel (R := fun c c' => c'.cfg = c.cfg) (fun _ => rfl)
    (fun _ _ => rfl) s n d du fs fe).2.1 c' hc'
  rw [hr]; exact hb c hc

/-- A channel operation keeps the channel's configuration, a phase shift the addressed bases, a
declaration addresses the basis of the new channel; nothing else matters. -/
theorem Move.bases {w : Width} {s s' : SeqState} (h : Move w s s') (hb : BasesOk s) : BasesOk s' := by
  cases h with
  | prim h =>
    cases h with
    | chan hc h => exact BasesOk_of_sameX (setChan_sameX hc h.keepX) hb
    | shift | used => exact BasesOk_of_sameX (mapRefs_same ..).toX hb
    | nonEmpty | measure => exact BasesOk_of_eq (s := s) rfl rfl hb
    | declare => exact BasesOk_addChannel _ hb
  | record => exact BasesOk_of_eq (s := s) rfl rfl hb
  | oracle n d du fs fe => exact injectOracle_bases s n d du fs fe hb

theorem runEv_bases (s : SeqState) (evs : List Ev) (hb : BasesOk s) : BasesOk (runEv s evs) :=
  (runEv_moves s evs).keeps Move.bases hb

end Pulser
