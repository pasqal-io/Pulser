/-
  Proofs.Param — helper lemmas for C08 (parametrized sequences and `build`): runs that must
  succeed throughout, the call log of a successful call, evaluation under a variable store that
  holds older values, mappable registers.
-/
import PulserModel.Param
import Proofs.Steps
namespace Pulser
namespace Param

-- core has none; the evaluated examples of C08 compare results of `build`
instance {ε α : Type} [DecidableEq ε] [DecidableEq α] : DecidableEq (Except ε α) := fun a b =>
  match a, b with
  | .ok x, .ok y => if h : x = y then isTrue (by rw [h]) else isFalse (by intro hh; cases hh; exact h rfl)
  | .error x, .error y =>
    if h : x = y then isTrue (by rw [h]) else isFalse (by intro hh; cases hh; exact h rfl)
  | .ok _, .error _ => isFalse (by intro hh; cases hh)
  | .error _, .ok _ => isFalse (by intro hh; cases hh)

/-- A run goes through exactly when its first call does and the rest goes through from there. -/
theorem runAllFrom_cons_ok {k : Nat} {s s' : SeqState} {op : Op} {rest : List Op} :
    runAllFrom k s (op :: rest) = .ok s' ↔
      (stepRaw s op).err = none ∧ runAllFrom (k + 1) (stepRaw s op).st rest = .ok s' := by
  rw [runAllFrom]
  cases (stepRaw s op).err with
  | none => exact ⟨fun h => ⟨rfl, h⟩, fun h => h.2⟩
  | some e => exact ⟨fun h => (by cases h), fun h => (by cases h.1)⟩

theorem runAllFrom_induct {P : SeqState → Prop} {Q : Op → Prop}
    (hstep : ∀ s op, P s → Q op → (stepRaw s op).err = none → P (stepRaw s op).st)
    {k : Nat} {s s' : SeqState} {ops : List Op} (hq : ∀ op ∈ ops, Q op) (hp : P s)
    (h : runAllFrom k s ops = .ok s') : P s' := by
  induction ops generalizing k s with
  | nil => cases h; exact hp
  | cons op rest ih =>
    obtain ⟨he, h⟩ := runAllFrom_cons_ok.mp h
    exact ih (fun o ho => hq o (List.mem_cons_of_mem _ ho)) (hstep s op hp (hq op List.mem_cons_self) he) h

/-- Error indices are relative to the starting index. -/
def shiftErr (n : Nat) : Except (Nat × Err) SeqState → Except (Nat × Err) SeqState
  | .ok s => .ok s
  | .error (k, e) => .error (n + k, e)

theorem runAllFrom_shift (n k : Nat) (s : SeqState) (ops : List Op) :
    runAllFrom (n + k) s ops = shiftErr n (runAllFrom k s ops) := by
  induction ops generalizing k s with
  | nil => rfl
  | cons op rest ih =>
    unfold runAllFrom
    cases he : (stepRaw s op).err with
    | none => simp only; rw [← ih (k + 1)]; rfl
    | some e => rfl

theorem runAllFrom_append_ok {k : Nat} {s s1 : SeqState} {a b : List Op} (ha : runAllFrom k s a = .ok s1) :
    runAllFrom k s (a ++ b) = runAllFrom (k + a.length) s1 b := by
  induction a generalizing k s with
  | nil => cases ha; rfl
  | cons op rest ih =>
    obtain ⟨he, ha⟩ := runAllFrom_cons_ok.mp ha
    rw [List.cons_append, runAllFrom, he, List.length_cons,
      show k + (rest.length + 1) = k + 1 + rest.length from (Nat.add_right_comm k 1 _).symm]
    exact ih ha

theorem runAll_append_ok {s s1 : SeqState} {a b : List Op} (ha : runAll s a = .ok s1) :
    runAll s (a ++ b) = runAllFrom a.length s1 b :=
  (runAllFrom_append_ok ha).trans (by rw [Nat.zero_add])

/-- Calls whose stored form is the call itself: every building call except the two EOM
calls that store the chosen `detuning_off` (and the read-only queries, which are not stored). -/
def selfStored : Op → Bool
  | .enableEom .. | .modifyEom .. | .getDuration .. | .estimate .. | .phaseRef .. => false
  | _ => true

/-- A successful building call is appended verbatim to the call log (`Sequence._calls`). -/
theorem stepRaw_calls {s : SeqState} {op : Op} (hs : selfStored op = true)
    (h : (stepRaw s op).err = none) :
    (stepRaw s op).st.calls = s.calls ++ [op] ∧ (stepRaw s op).st.dev = s.dev ∧
      (stepRaw s op).st.nQ = s.nQ := by
  rcases stepRaw_shape s op with ⟨hq, _⟩ | ⟨_, op', hst, has⟩
  · cases op with
    | getDuration | estimate | phaseRef => cases hs
    | _ => cases hq
  · cases has with
    | self => exact hst.record h
    | enable | modify => cases hs

/-! ### Evaluation reads only what the assignment gives -/

/-- All variables of the expression are bound by `ρ`. -/
def boundIn (ρ : Assign) (vs : List Nat) : Prop := ∀ n ∈ vs, (ρ.lookup n).isSome = true

theorem boundIn_app_l {ρ : Assign} {a b : List Nat} (h : boundIn ρ (a ++ b)) : boundIn ρ a :=
  fun n hn => h n (List.mem_append_left _ hn)
theorem boundIn_app_r {ρ : Assign} {a b : List Nat} (h : boundIn ρ (a ++ b)) : boundIn ρ b :=
  fun n hn => h n (List.mem_append_right _ hn)

theorem get_shadow {ρ st : Assign} {n i : Nat} (h : (ρ.lookup n).isSome = true) :
    Assign.get (ρ ++ st) n i = Assign.get ρ n i := by
  unfold Assign.get
  rw [List.lookup_append]
  cases hl : ρ.lookup n with
  | none => rw [hl] at h; cases h
  | some v => rfl

theorem eval_shadow (I : Interp) {ρ st : Assign} (e : Expr) (h : boundIn ρ e.vars) :
    eval I (ρ ++ st) e = eval I ρ e := by
  induction e with
  | const q => rfl
  | var n i => exact get_shadow (h n List.mem_cons_self)
  | add a b iha ihb | sub a b iha ihb | mul a b iha ihb | div a b iha ihb =>
    simp only [eval, iha (boundIn_app_l h), ihb (boundIn_app_r h)]
  | neg a ih | fn f a ih => simp only [eval, ih h]

theorem evalExprs_shadow (I : Interp) {ρ st : Assign} (es : List Expr)
    (h : boundIn ρ (es.flatMap Expr.vars)) : evalExprs I (ρ ++ st) es = evalExprs I ρ es := by
  induction es with
  | nil => rfl
  | cons e rest ih =>
    rw [List.flatMap_cons] at h
    simp only [evalExprs, eval_shadow I (st := st) e (boundIn_app_l h), ih (boundIn_app_r h)]

theorem evalList_shadow (I : Interp) {ρ st : Assign} (es : List Expr)
    (h : boundIn ρ (es.flatMap Expr.vars)) : evalList I (ρ ++ st) es = evalList I ρ es := by
  induction es with
  | nil => rfl
  | cons e rest ih =>
    rw [List.flatMap_cons] at h
    simp only [evalList, eval_shadow I (st := st) e (boundIn_app_l h), ih (boundIn_app_r h)]

theorem evalRat_shadow (I : Interp) {ρ st : Assign} (a : Arg Rat) (h : boundIn ρ a.vars) :
    evalRat I (ρ ++ st) a = evalRat I ρ a := by
  cases a with
  | conc v => rfl
  | param e => exact eval_shadow I e h

theorem evalInt_shadow (I : Interp) {ρ st : Assign} (a : Arg Int) (h : boundIn ρ a.vars) :
    evalInt I (ρ ++ st) a = evalInt I ρ a := by
  cases a with
  | conc v => rfl
  | param e => simp only [evalInt, eval_shadow I e h]

theorem evalNat_shadow (I : Interp) {ρ st : Assign} (a : Arg Nat) (h : boundIn ρ a.vars) :
    evalNat I (ρ ++ st) a = evalNat I ρ a := by
  cases a with
  | conc v => rfl
  | param e => simp only [evalNat, eval_shadow I e h]

theorem evalNats_shadow (I : Interp) {ρ st : Assign} (l : List (Arg Nat))
    (h : boundIn ρ (l.flatMap Arg.vars)) : evalNats I (ρ ++ st) l = evalNats I ρ l := by
  induction l with
  | nil => rfl
  | cons a rest ih =>
    rw [List.flatMap_cons] at h
    simp only [evalNats, evalNat_shadow I (st := st) a (boundIn_app_l h), ih (boundIn_app_r h)]

theorem evalOp_shadow (I : Interp) {ρ st : Assign} (p : POp) (h : boundIn ρ p.vars) :
    evalOp I (ρ ++ st) p = evalOp I ρ p := by
  cases p with
  | target qs ch =>
    cases qs with
    | conc l => rfl
    | arr es => simp only [evalOp, evalTArg, evalList_shadow I es h]
  | add p ch proto | addDmm p ch proto =>
    cases p with
    | conc pi => rfl
    | param mk args =>
      simp only [evalOp, evalPulse, evalExprs_shadow I args h]
  | addEom ch dur phase post proto corr fall ref =>
    have h1 := evalNat_shadow I (st := st) dur (boundIn_app_l (boundIn_app_l h))
    have h2 := evalRat_shadow I (st := st) phase (boundIn_app_r (boundIn_app_l h))
    have h3 := evalRat_shadow I (st := st) post (boundIn_app_r h)
    simp only [evalOp, h1, h2, h3]
  | delay d ch atRest =>
    simp only [evalOp, evalInt_shadow I d h]
  | align chs atRest => rfl
  | phaseShift phi qs b =>
    have h1 := evalRat_shadow I (st := st) phi (boundIn_app_l h)
    have h2 := evalNats_shadow I (st := st) qs (boundIn_app_r h)
    simp only [evalOp, h1, h2]
  | enableEom ch e | modifyEom ch e =>
    cases e with
    | conc e => rfl
    | param mk a d o corr =>
      have ha := evalRat_shadow I (st := st) a (boundIn_app_l (boundIn_app_l h))
      have hd := evalRat_shadow I (st := st) d (boundIn_app_r (boundIn_app_l h))
      have ho := evalRat_shadow I (st := st) o (boundIn_app_r h)
      simp only [evalOp, evalEom, ha, hd, ho]
  | disableEom ch corr => rfl
  | measure b => rfl

theorem evalOps_shadow (I : Interp) {ρ st : Assign} (ps : List POp)
    (h : ∀ p ∈ ps, boundIn ρ p.vars) : evalOps I (ρ ++ st) ps = evalOps I ρ ps := by
  induction ps with
  | nil => rfl
  | cons p rest ih =>
    have h1 := evalOp_shadow I (st := st) p (h p List.mem_cons_self)
    have h2 := ih (fun q hq => h q (List.mem_cons_of_mem _ hq))
    simp only [evalOps, h1, h2]

theorem covers_bound {vars : List (Nat × Nat)} {ρ : Assign} (h : covers vars ρ = true) {n : Nat}
    (hn : vars.any (·.1 == n) = true) : (ρ.lookup n).isSome = true := by
  unfold covers at h
  rw [List.all_eq_true] at h
  rw [List.any_eq_true] at hn
  obtain ⟨x, hx, hxn⟩ := hn
  have := h x hx
  obtain ⟨a, b⟩ := x
  simp only [beq_iff_eq] at hxn
  subst hxn
  simp only at this
  cases hl : ρ.lookup a with
  | none => rw [hl] at this; simp at this
  | some v => rfl

theorem filter_take_of_sets {d ids : List Nat} (hd : d.Nodup)
    (h1 : ∀ x ∈ ids, x ∈ d.take ids.length) (h2 : ∀ x ∈ d.take ids.length, x ∈ ids) :
    d.filter (ids.contains ·) = d.take ids.length := by
  have hsplit : d = d.take ids.length ++ d.drop ids.length := (List.take_append_drop _ _).symm
  have hdis : ∀ x ∈ d.drop ids.length, x ∉ d.take ids.length := by
    intro x hx hx'
    rw [hsplit] at hd
    exact (List.nodup_append.mp hd).2.2 x hx' x hx rfl
  conv => lhs; rw [hsplit]
  rw [List.filter_append]
  have ht : (d.take ids.length).filter (ids.contains ·) = d.take ids.length := by
    apply List.filter_eq_self.mpr
    intro x hx; simpa using h2 x hx
  have hdr : (d.drop ids.length).filter (ids.contains ·) = [] := by
    apply List.filter_eq_nil_iff.mpr
    intro x hx hc
    have : x ∈ ids := by simpa using hc
    exact hdis x hx (h1 x this)
  rw [ht, hdr, List.append_nil]

end Param
end Pulser
