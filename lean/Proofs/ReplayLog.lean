/-
  Proofs.ReplayLog — every successful call extends the record by a call whose replay from
  the same state reproduces the same result (C09).
-/
import Proofs.Steps
import Proofs.Eom
import Proofs.Limits
namespace Pulser

/-- The oracle option lists of EOM calls have no duplicates (true of the real
`detuning_off_options` whenever the beam light shifts differ; monitored by the harness). -/
def NodupOpts : Op → Prop
  | .enableEom _ e | .modifyEom _ e => e.opts.Nodup
  | _ => True

/-- Replaying the stored `optimal_detuning_off` (the value that was chosen) chooses it again. -/
theorem processEomParams_stored {c : ChanState} {e : EomIn} {d : Rat}
    (h : processEomParams c e = .ok d) (hn : e.opts.Nodup) :
    processEomParams c { e with optimal := d } = .ok d := by
  obtain ⟨h0, hv, i, σ, _, ho, hs, hv2⟩ := processEomParams_iff.mp h
  obtain ⟨hi, rfl⟩ := List.getElem?_eq_some_iff.mp ho
  obtain ⟨j, hj1, hj2, hj3⟩ := closestIdx_of_mem e.opts i hi
  cases (List.getElem_inj hn).mp hj3
  exact processEomParams_iff.mpr ⟨h0, hv, i, σ, hj1, ho, hs, hv2⟩

/-- **One successful call, one record entry that replays to the same result.** -/
theorem step_record (s : SeqState) (op : Op) (hok : (stepRaw s op).err = none) (hn : NodupOpts op) :
    (op.isQuery = true ∧ (stepRaw s op).st = s) ∨
    (∃ op', (stepRaw s op).st.calls = s.calls ++ [op'] ∧ (stepRaw s op).st.dev = s.dev ∧
        (stepRaw s op).st.nQ = s.nQ ∧ stepRaw s op' = stepRaw s op) := by
  rcases stepRaw_shape s op with hq | ⟨_, op', hst, has⟩
  · exact .inl hq
  · obtain ⟨h1, h2, h3⟩ := hst.record hok
    refine .inr ⟨op', h1, h2, h3, ?_⟩
    cases has with
    | self => rfl
    | enable hv hp | modify hv hp =>
      -- the stored `optimal_detuning_off` is the one that was chosen: it is chosen again
      simp only [stepRaw, hv, hp, processEomParams_stored hp hn]
      rfl

/-- The state is what replaying its own call log on a fresh sequence gives. -/
def Replayable (dev : Device) (nQ : Nat) (s : SeqState) : Prop :=
  s.dev = dev ∧ s.nQ = nQ ∧ run (SeqState.init dev nQ) s.calls = s

theorem Replayable.step {dev : Device} {nQ : Nat} {s : SeqState} (op : Op) (h : Replayable dev nQ s)
    (hn : NodupOpts op) (hok : (stepRaw s op).err = none) : Replayable dev nQ (stepRaw s op).st := by
  rcases step_record s op hok hn with ⟨_, hst⟩ | ⟨op', hc, hd, hq, hsame⟩
  · rw [hst]; exact h
  · refine ⟨hd.trans h.1, hq.trans h.2.1, ?_⟩
    rw [hc, run_append, h.2.2]
    show (stepRaw s op').st = (stepRaw s op).st
    rw [hsame]

end Pulser
