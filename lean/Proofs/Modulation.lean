/-
  Proofs.Modulation — helper lemmas for C14 (output modulation).
  Model: PulserModel/Modulation.lean.
-/
import Mathlib.Algebra.BigOperators.Fin
import Mathlib.Algebra.Field.GeomSum
import Mathlib.Algebra.Group.Fin.Basic
import Mathlib.Algebra.Order.BigOperators.Ring.Finset
import Mathlib.Tactic.Ring
import Mathlib.Tactic.Linarith
import Mathlib.Tactic.FieldSimp
import PulserModel.Modulation
import Proofs.Waveform
namespace Pulser
namespace Mod
open Finset

section Algebra
variable {R : Type} [CommSemiring R]

theorem sumFin_eq {n : Nat} (f : Fin n → R) : sumFin f = ∑ i, f i := by
  unfold sumFin
  rw [← List.ofFn_eq_map, List.sum_ofFn]

theorem sumFin_linear {n : Nat} (f g : Fin n → R) (a b : R) :
    sumFin (fun j => a * f j + b * g j) = a * sumFin f + b * sumFin g := by
  simp only [sumFin_eq, Finset.sum_add_distrib, Finset.mul_sum]

theorem circConv_apply {n : Nat} (h x : Fin n → R) (i : Fin n) :
    circConv h x i = ∑ j, h (i - j) * x j := by
  unfold circConv; rw [sumFin_eq]

theorem dftWith_apply {n : Nat} (pw : Nat → R) (x : Fin n → R) (k : Fin n) :
    dftWith pw x k = ∑ j, x j * pw (j.val * k.val % n) := by
  unfold dftWith; rw [sumFin_eq]

theorem dftWith_linear {n : Nat} (pw : Nat → R) (x y : Fin n → R) (a b : R) (k : Fin n) :
    dftWith pw (fun j => a * x j + b * y j) k = a * dftWith pw x k + b * dftWith pw y k := by
  unfold dftWith
  simp only [add_mul, mul_assoc]
  exact sumFin_linear _ _ a b
end Algebra

section Ring
variable {R : Type} [CommRing R]

theorem circConv_sum {n : Nat} [NeZero n] (h x : Fin n → R) :
    ∑ i, circConv h x i = (∑ k, h k) * ∑ j, x j := by
  simp only [circConv_apply]
  rw [Finset.sum_comm, Finset.mul_sum]
  apply Finset.sum_congr rfl
  intro j _
  rw [← Finset.sum_mul]
  congr 1
  exact Equiv.sum_comp (Equiv.subRight j) h

end Ring

section Field
variable {K : Type} [Field K]

theorem geom_root_sum {n : Nat} (y : K) (hy : y ^ n = 1) (hne : y ≠ 1) :
    ∑ i : Fin n, y ^ (i : Nat) = 0 := by
  rw [Fin.sum_univ_eq_sum_range (fun i => y ^ i) n, geom_sum_eq hne, hy]; simp

theorem inv_root_pow {n : Nat} {ω ωi : K} (hω : ω ^ n = 1) (hinv : ω * ωi = 1) : ωi ^ n = 1 := by
  have : (ω * ωi) ^ n = 1 := by rw [hinv, one_pow]
  rwa [mul_pow, hω, one_mul] at this

theorem pow_mul_mod {n : Nat} {a : K} (ha : a ^ n = 1) (p q : Nat) :
    a ^ (p * q % n) = (a ^ p) ^ q := by rw [← pow_eq_pow_mod _ ha, pow_mul]

theorem pow_pow_eq_one {n : Nat} {a : K} (ha : a ^ n = 1) (k : Nat) : (a ^ k) ^ n = 1 := by
  rw [pow_right_comm, ha, one_pow]

theorem pow_fin_sub {n : Nat} (a b : K) (hab : a * b = 1) (ha : a ^ n = 1) (i j : Fin n) :
    a ^ ((i - j : Fin n) : Nat) = b ^ (j : Nat) * a ^ (i : Nat) := by
  obtain rfl : b = a⁻¹ := eq_inv_of_mul_eq_one_right hab
  rw [Fin.sub_def]
  simp only
  rw [← pow_eq_pow_mod _ ha, pow_add, pow_sub₀ a (left_ne_zero_of_mul_eq_one hab) j.isLt.le, ha,
    one_mul, inv_pow]

theorem modulateDft_eq_circConv {n : Nat} (ω ωi ninv : K) (hω : ω ^ n = 1) (hinv : ω * ωi = 1)
    (m x : Fin n → K) (i : Fin n) :
    modulateDft (fun t => ω ^ t) (fun t => ωi ^ t) ninv m x i =
      circConv (kernelOf (fun t => ωi ^ t) ninv m) x i := by
  have hωi : ωi ^ n = 1 := inv_root_pow hω hinv
  unfold modulateDft kernelOf
  rw [circConv_apply]
  -- `ωi^(k·(i−j)) = ω^(k·j) · ωi^(k·i)`, for the `n`-th roots `ω^k`, `ωi^k`
  have e : ∀ (k j : Fin n), ωi ^ ((k : Nat) * ((i - j : Fin n) : Nat) % n) =
      ω ^ ((j : Nat) * (k : Nat) % n) * ωi ^ ((k : Nat) * (i : Nat) % n) := by
    intro k j
    rw [pow_mul_mod hωi, pow_mul_mod hωi, mul_comm (j : Nat), pow_mul_mod hω]
    exact pow_fin_sub _ _ (by rw [← mul_pow, mul_comm, hinv, one_pow]) (pow_pow_eq_one hωi k) i j
  simp only [dftWith_apply, e, Finset.mul_sum, Finset.sum_mul]
  rw [Finset.sum_comm]
  apply Finset.sum_congr rfl; intro j _
  apply Finset.sum_congr rfl; intro k _
  ring

/-- The impulse response sums to the DC gain `m 0` (orthogonality of the powers of a primitive
root: `Σ_t (ωi^k)^t` is `n` for `k = 0` and `0` otherwise). -/
theorem kernelOf_sum {n : Nat} [NeZero n] (ωi ninv : K) (hωi : ωi ^ n = 1)
    (hprim : ∀ k, 0 < k → k < n → ωi ^ k ≠ 1) (hn : ninv * (n : K) = 1) (m : Fin n → K) :
    ∑ t, kernelOf (fun t => ωi ^ t) ninv m t = m 0 := by
  unfold kernelOf
  simp only [dftWith_apply, pow_mul_mod hωi]
  -- of `Σ_k m k · Σ_t (ωi^k)^t` only `k = 0` is left: there the inner sum is `n`, elsewhere `0`
  rw [← Finset.mul_sum, Finset.sum_comm, Fintype.sum_eq_single (0 : Fin n)]
  · simp only [Fin.val_zero, pow_zero, one_pow, mul_one, Finset.sum_const, Finset.card_univ,
      Fintype.card_fin, nsmul_eq_mul]
    rw [← mul_assoc, hn, one_mul]
  · intro k hk
    rw [← Finset.mul_sum, geom_root_sum _ (pow_pow_eq_one hωi k)
      (hprim _ (Nat.pos_of_ne_zero fun h0 => hk (Fin.val_eq_zero_iff.1 h0)) k.isLt), mul_zero]

theorem modulateDft_sum {n : Nat} [NeZero n] (ω ωi ninv : K) (hω : ω ^ n = 1) (hinv : ω * ωi = 1)
    (hprim : ∀ k, 0 < k → k < n → ωi ^ k ≠ 1) (hn : ninv * (n : K) = 1) (m x : Fin n → K) :
    ∑ i, modulateDft (fun t => ω ^ t) (fun t => ωi ^ t) ninv m x i = m 0 * ∑ j, x j := by
  simp only [modulateDft_eq_circConv ω ωi ninv hω hinv]
  rw [circConv_sum, kernelOf_sum ωi ninv (inv_root_pow hω hinv) hprim hn]

end Field

section Ordered
variable {K : Type} [CommRing K] [LinearOrder K] [IsStrictOrderedRing K]

theorem circConv_nonneg {n : Nat} (h x : Fin n → K) (hh : ∀ k, 0 ≤ h k) (hx : ∀ j, 0 ≤ x j)
    (i : Fin n) : 0 ≤ circConv h x i := by
  rw [circConv_apply]
  exact Finset.sum_nonneg fun j _ => mul_nonneg (hh _) (hx _)

theorem circConv_le_bound {n : Nat} [NeZero n] (h x : Fin n → K) (hh : ∀ k, 0 ≤ h k)
    (h1 : ∑ k, h k = 1) (M : K) (hx : ∀ j, x j ≤ M) (i : Fin n) : circConv h x i ≤ M := by
  rw [circConv_apply]
  calc ∑ j, h (i - j) * x j ≤ ∑ j, h (i - j) * M :=
        Finset.sum_le_sum fun j _ => mul_le_mul_of_nonneg_left (hx j) (hh _)
    _ = (∑ k, h k) * M := by
        rw [← Finset.sum_mul]; exact congrArg (· * M) (Equiv.sum_comp (Equiv.subLeft i) h)
    _ = M := by rw [h1, one_mul]

end Ordered

section Lengths
variable {α : Type}

theorem filterList_length [Add α] [Mul α] [Zero α] (F : (n : Nat) → (Fin n → α) → Fin n → α)
    (l : List α) : (filterList F l).length = l.length := by
  unfold filterList; simp

/-- `k` samples before and `k` after, whatever they are: the shape of every padding here. -/
theorem length_padded (x : List α) (k : Nat) (a b : α) :
    (List.replicate k a ++ x ++ List.replicate k b).length = x.length + 2 * k := by
  rw [List.length_append, List.length_append, List.length_replicate, List.length_replicate,
    Nat.add_right_comm, Nat.add_comm, Nat.two_mul]

theorem padZero_length [Zero α] (x : List α) (k : Nat) : (padZero x k).length = x.length + 2 * k :=
  length_padded x k 0 0

theorem padEdge_nil (k : Nat) : padEdge ([] : List α) k = if k = 0 then some [] else none := rfl

theorem padEdge_cons (a : α) (rest : List α) (k : Nat) : padEdge (a :: rest) k =
    some (List.replicate k a ++ (a :: rest) ++
      List.replicate k ((a :: rest).getLast (List.cons_ne_nil _ _))) := by
  unfold padEdge
  rw [List.head?_cons, List.getLast?_eq_some_getLast (List.cons_ne_nil a rest)]

theorem padEdgeRight_nil (k : Nat) :
    padEdgeRight ([] : List α) k = if k = 0 then some [] else none := rfl

theorem padEdgeRight_cons (a : α) (rest : List α) (k : Nat) : padEdgeRight (a :: rest) k =
    some (a :: rest ++ List.replicate k ((a :: rest).getLast (List.cons_ne_nil _ _))) := by
  unfold padEdgeRight
  rw [List.getLast?_eq_some_getLast (List.cons_ne_nil a rest)]

theorem padEdge_length {x y : List α} {k : Nat} (h : padEdge x k = some y) :
    y.length = x.length + 2 * k := by
  cases x with
  | nil =>
    by_cases hk : k = 0
    · rw [padEdge_nil, if_pos hk] at h; cases h; subst hk; rfl
    · rw [padEdge_nil, if_neg hk] at h; cases h
  | cons a rest =>
    rw [padEdge_cons, Option.some.injEq] at h
    rw [← h, length_padded]

theorem padEdge_none_iff (x : List α) (k : Nat) : padEdge x k = none ↔ x = [] ∧ 0 < k := by
  cases x with
  | nil => rw [padEdge_nil]; split <;> simp [*]; omega
  | cons a rest => rw [padEdge_cons]; simp

theorem padEdgeRight_length {x y : List α} {k : Nat} (h : padEdgeRight x k = some y) :
    y.length = x.length + k := by
  cases x with
  | nil =>
    by_cases hk : k = 0
    · rw [padEdgeRight_nil, if_pos hk] at h; cases h; subst hk; rfl
    · rw [padEdgeRight_nil, if_neg hk] at h; cases h
  | cons a rest =>
    rw [padEdgeRight_cons, Option.some.injEq] at h
    rw [← h, List.length_append, List.length_replicate]

theorem padEdgeRight_none_iff (x : List α) (k : Nat) : padEdgeRight x k = none ↔ x = [] ∧ 0 < k := by
  cases x with
  | nil => rw [padEdgeRight_nil]; split <;> simp [*]; omega
  | cons a rest => rw [padEdgeRight_cons]; simp

/-- Length of `l[a:b]` once the two bounds are resolved to positions `s`, `e` (`e` within `l`);
the callers say where their bounds land with `Wave.pyAdjust_natCast` / `Wave.pyAdjust_neg_natCast`. -/
theorem pySlice_length {l : List α} {a b : Int} {s e : Nat}
    (ha : Wave.pyAdjust l.length (some a) 0 = s) (hb : Wave.pyAdjust l.length (some b) l.length = e)
    (he : e ≤ l.length) : (pySlice l a b).length = e - s := by
  unfold pySlice
  rw [ha, hb, Int.toNat_natCast, Int.toNat_natCast]
  exact Wave.sliceList_length l s e he

theorem pySlice_trim_length (l : List α) (r : Nat) (hr : 1 ≤ r) (hl : 2 * r ≤ l.length) :
    (pySlice l (r : Int) (-(r : Int))).length = l.length - 2 * r := by
  have hrl : r ≤ l.length := Nat.le_trans (Nat.le_mul_of_pos_left r Nat.two_pos) hl
  rw [pySlice_length (Wave.pyAdjust_natCast _ _ hrl) (Wave.pyAdjust_neg_natCast _ _ hr hrl)
    (Nat.sub_le _ _), Nat.sub_sub, Nat.two_mul]

/-- The `-0` pitfall: with `r = 0`, `l[0 : -0]` is `l[0:0]`, the empty list. -/
theorem pySlice_zero_empty (l : List α) : pySlice l 0 (-(0 : Int)) = [] :=
  List.eq_nil_of_length_eq_zero
    (pySlice_length (s := 0) (e := 0) (Wave.pyAdjust_natCast _ _ (Nat.zero_le _))
      (Wave.pyAdjust_natCast _ _ (Nat.zero_le _)) (Nat.zero_le _))

end Lengths

section Modulate
variable {α : Type} [Zero α]

theorem padKeep_length (x : List α) (k : Nat) : (padKeep x k).length = x.length + 2 * k := by
  unfold padKeep
  cases h : padEdge x k with
  | some y => exact padEdge_length h
  | none =>
    obtain rfl := ((padEdge_none_iff x k).mp h).1
    rw [List.length_replicate, List.length_nil, Nat.zero_add, Nat.two_mul]

theorem padKeepRight_length (x : List α) (k : Nat) : (padKeepRight x k).length = x.length + k := by
  unfold padKeepRight
  cases h : padEdgeRight x k with
  | some y => exact padEdgeRight_length h
  | none =>
    obtain rfl := ((padEdgeRight_none_iff x k).mp h).1
    rw [List.length_replicate, List.length_nil, Nat.zero_add]

theorem channelModulate_nofilter (filt : List α → List α) (c : ModCfg) (hc : c.filters = false)
    (x : List α) (k : Bool) : channelModulate filt c x k = x := by
  unfold channelModulate; simp [hc]

theorem channelModulate_plain (filt : List α → List α) (hf : ∀ l, (filt l).length = l.length)
    (c : ModCfg) (hc : c.filters = true) (x : List α) :
    (channelModulate filt c x false).length = x.length + 2 * c.pad := by
  rw [channelModulate, hc, Bool.not_true, if_neg Bool.false_ne_true, if_neg Bool.false_ne_true, hf,
    padZero_length]

theorem channelModulate_keep (filt : List α → List α) (hf : ∀ l, (filt l).length = l.length)
    (c : ModCfg) (hc : c.filters = true) (hr : 1 ≤ c.rise) (x : List α) :
    (channelModulate filt c x true).length = x.length + 2 * c.pad := by
  have hl : (padKeep x (c.pad + c.rise)).length = x.length + 2 * c.pad + 2 * c.rise := by
    rw [padKeep_length, Nat.mul_add, Nat.add_assoc]
  rw [channelModulate, hc, Bool.not_true, if_neg Bool.false_ne_true, if_pos rfl,
    pySlice_trim_length _ _ hr (by rw [hf, hl]; exact Nat.le_add_left _ _), hf, hl,
    Nat.add_sub_cancel]

theorem channelModulate_length (filt : List α → List α) (hf : ∀ l, (filt l).length = l.length)
    (c : ModCfg) (hc : c.filters = true) (hr : 1 ≤ c.rise) (x : List α) (k : Bool) :
    (channelModulate filt c x k).length = x.length + 2 * c.pad := by
  cases k
  · exact channelModulate_plain filt hf c hc x
  · exact channelModulate_keep filt hf c hc hr x

/-- The old, unguarded `Channel.modulate(keep_ends=True)` on an empty input (F14). -/
theorem channelModulateOld_keep_empty (filt : List α → List α) (c : ModCfg) (hc : c.filters = true)
    (hk : 0 < c.pad + c.rise) : channelModulateOld filt c ([] : List α) true = none := by
  have : padEdge ([] : List α) (c.pad + c.rise) = none := (padEdge_none_iff _ _).mpr ⟨rfl, hk⟩
  simp [channelModulateOld, hc, this]

theorem channelModulateOld_eq (filt : List α → List α) (c : ModCfg) (x : List α) (k : Bool)
    (hx : x ≠ [] ∨ k = false) : channelModulateOld filt c x k = some (channelModulate filt c x k) := by
  unfold channelModulateOld channelModulate
  cases hc : c.filters <;> simp only [Bool.not_true, Bool.not_false, if_true, if_false, Bool.false_eq_true]
  cases k
  · simp
  · simp only [if_true]
    rcases hx with hx | hx
    · cases hp : padEdge x (c.pad + c.rise) with
      | none => exact absurd ((padEdge_none_iff x _).mp hp).1 hx
      | some y => simp [padKeep, hp]
    · cases hx

/-- `ChannelSamples.modulate` uses `Channel.modulate` only through the number `e` of samples it
adds (`2·padding` with a bandwidth, `0` without): the three arrays are cut to any `m ≤ n + e`. -/
theorem csModulate_lengths (filt : List α → List α) (c : ModCfg) (e : Nat)
    (hmod : ∀ x k, (channelModulate filt c x k).length = x.length + e) (s : CS α) (n m : Nat)
    (ha : s.amp.length = n) (hd : s.det.length = n) (hp : s.phase.length = n)
    (hm : m ≤ n + e) (hm0 : n = 0 → m = 0) :
    (csModulate filt c s (some m)).amp.length = m ∧ (csModulate filt c s (some m)).det.length = m ∧
      (csModulate filt c s (some m)).phase.length = m := by
  unfold csModulate
  by_cases h0 : s.amp.length = 0
  · obtain rfl : n = 0 := ha.symm.trans h0
    obtain rfl := hm0 rfl
    rw [if_pos h0]; exact ⟨ha, hd, hp⟩
  · rw [if_neg h0]
    simp only [List.length_take, padKeepRight_length, hmod, ha, hd, hp]
    rw [Nat.add_sub_cancel_left, Nat.min_eq_left hm]; exact ⟨rfl, rfl, rfl⟩

theorem extendDuration_lengths {s s' : CS α} {new : Nat} (h : extendDuration s new = some s') :
    s.amp.length ≤ new ∧ s'.amp.length = s.amp.length + (new - s.amp.length) ∧
      s'.det.length = s.det.length + (new - s.amp.length) ∧
      s'.phase.length = s.phase.length + (new - s.amp.length) := by
  unfold extendDuration at h
  by_cases hlt : new < s.amp.length
  · rw [if_pos hlt] at h; cases h
  · rw [if_neg hlt, Option.some.injEq] at h
    subst h
    have app : ∀ (l : List α) (b : α), (l ++ List.replicate (new - s.amp.length) b).length
        = l.length + (new - s.amp.length) := fun l b => by
      rw [List.length_append, List.length_replicate]
    refine ⟨Nat.le_of_not_lt hlt, app _ 0, app _ 0, ?_⟩
    cases hb : s.phase.getLast? with
    | some b => exact app _ b
    | none => rw [List.getLast?_eq_none_iff.mp hb, List.length_replicate, List.length_nil, Nat.zero_add]

theorem extendDuration_isSome (s : CS α) {new : Nat} (h : s.amp.length ≤ new) :
    ∃ s', extendDuration s new = some s' := by
  unfold extendDuration
  rw [if_neg (Nat.not_lt.2 h)]
  exact ⟨_, rfl⟩

theorem sampleChannel_extended (filt : List α → List α) (c : ModCfg) {s s1 : CS α} {E : Nat}
    (d : Nat) (hE0 : E ≠ 0) (h1 : extendDuration s E = some s1) :
    sampleChannel filt c s true E d = some (csModulate filt c s1 (some E)) := by
  unfold sampleChannel
  rw [if_pos hE0, h1]
  simp only [if_pos hE0]
  rfl

end Modulate

end Mod
end Pulser
