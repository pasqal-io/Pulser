/-
  Proofs.SwitchFields — the parameter tables of `PulserModel.Switch` (property C18).

  `get_rows` tells the parameter names apart for every statement about agreement on a list of
  names, which is reduced through it to equations between fields.  A strict
  comparison is the conjunction of its guarded rows (`strictMatch_iff`); for the parameters of the
  model that conjunction is written out once (`strictMatch_model_iff`) and serves both the reading
  of `check_channels_match` (`C18.check_channels_match_spec`) and the soundness of any comparison
  that covers the static timing parameters (`strictMatch_sound`, `strictMatch_sound_eom`; for
  the channel lists of two devices, `map_timing_of_listOk`).
-/
import PulserModel.Switch
namespace Pulser
namespace Switch

/-! ### the parameter table -/

theorem get_rows (c : ChanCfg) :
    get c "type" = .ty c.isDmm c.basis ∧ get c "basis" = .basis c.basis ∧
    get c "addressing" = .bool c.isLocal ∧ get c "clock_period" = .nat c.clock ∧
    get c "min_duration" = .nat c.minDur ∧ get c "mod_bandwidth" = .nat c.rise ∧
    get c "phase_jump_time" = .nat c.pjt ∧ get c "min_retarget_interval" = .nat c.minRetarget ∧
    get c "fixed_retarget_t" = .nat c.fixedRetarget ∧ get c "eom_config" = .bool c.eom.isSome ∧
    get c "eom_config.mod_bandwidth" = .onat (c.eom.map (·.rise)) ∧
    get c "_eom_buffer_time" = .onat (c.eom.map (·.bufferTime)) ∧
    get c "eom_config.custom_buffer_time" = .onat (c.eom.map fun e => if e.customBuffer then 1 else 0) ∧
    get c "max_duration" = .onat c.maxDur ∧ get c "max_targets" = .onat c.maxTargets ∧
    get c "max_amp" = .orat c.maxAmp ∧ get c "max_abs_detuning" = .orat c.maxAbsDet ∧
    get c "min_avg_amp" = .rat c.minAvgAmp ∧ get c "bottom_detuning" = .orat c.bottom ∧
    get c "total_bottom_detuning" = .orat c.totalBottom := by
  -- `↓`: a test is decided before its branches are visited, so row k costs k comparisons of names
  simp only [get, String.reduceEq, ↓reduceIte, and_self]

theorem agreeOn_iff {fs : List String} {a b : ChanCfg} :
    agreeOn fs a b = true ↔ ∀ f ∈ fs, get a f = get b f := by
  simp only [agreeOn, List.all_eq_true, beq_iff_eq]

theorem eom_ext {x y : Option EomCfg}
    (h1 : x.map (·.rise) = y.map (·.rise)) (h2 : x.map (·.bufferTime) = y.map (·.bufferTime))
    (h3 : (x.map fun e => if e.customBuffer then 1 else 0) = (y.map fun e => if e.customBuffer then (1 : Nat) else 0)) :
    x = y := by
  cases x with
  | none => cases y with
    | none => rfl
    | some b => simp at h1
  | some a => cases y with
    | none => simp at h1
    | some b =>
      obtain ⟨r1, b1, c1⟩ := a
      obtain ⟨r2, b2, c2⟩ := b
      simp only [Option.map_some, Option.some.injEq] at h1 h2 h3
      subst h1 h2
      cases c1 <;> cases c2 <;> simp_all

theorem timing_ext {a b : ChanCfg} (h1 : a.isDmm = b.isDmm) (h2 : a.basis = b.basis) (h3 : a.isLocal = b.isLocal)
    (h4 : a.clock = b.clock) (h5 : a.minDur = b.minDur) (h6 : a.rise = b.rise) (h7 : a.pjt = b.pjt)
    (h8 : a.fixedRetarget = b.fixedRetarget) (h9 : effMinRetarget a = effMinRetarget b) (h10 : a.eom = b.eom) :
    timing a = timing b := by
  simp only [timing, ChanCfg.mk.injEq, and_true, true_and]
  exact ⟨h1, h2, h3, h4, h5, h6, h7, h9, h8, h10⟩

theorem timing_eq_of_agree {a b : ChanCfg} (h : agreeOn timingFields a b = true) : timing a = timing b := by
  simp only [agreeOn_iff, timingFields, List.forall_mem_cons, get_rows, FVal.ty.injEq, FVal.basis.injEq,
    FVal.bool.injEq, FVal.nat.injEq, FVal.onat.injEq] at h
  obtain ⟨⟨t1, t2⟩, -, hl, hc, hmd, hr, hp, hmr, hfr, -, he1, he2, he3, -⟩ := h
  exact timing_ext t1 t2 hl hc hmd hr hp hfr (by rw [effMinRetarget, effMinRetarget, hmr, hfr]) (eom_ext he1 he2 he3)

/-- The hypothesis has the shape of `chansAgree` and `listOk`. -/
theorem map_eq_of_zip_all {α β : Type} {f : α → β} {p : α → α → Bool} (hp : ∀ a b, p a b = true → f a = f b)
    {l₁ l₂ : List α} (h : (l₁.length == l₂.length && (l₁.zip l₂).all fun (a, b) => p a b) = true) :
    l₁.map f = l₂.map f := by
  rw [Bool.and_eq_true, beq_iff_eq] at h
  induction l₁ generalizing l₂ with
  | nil => cases l₂ with
    | nil => rfl
    | cons _ _ => cases h.1
  | cons a l₁ ih => cases l₂ with
    | nil => cases h.1
    | cons b l₂ =>
      rw [List.zip_cons_cons, List.all_cons, Bool.and_eq_true] at h
      rw [List.map_cons, List.map_cons, hp a b h.2.1, ih ⟨Nat.succ.inj h.1, h.2.2⟩]

theorem map_timing_of_agree {l₁ l₂ : List ChanCfg} (h : chansAgree l₁ l₂ = true) : l₁.map timing = l₂.map timing :=
  map_eq_of_zip_all (p := agreeOn timingFields) (fun _ _ => timing_eq_of_agree) h

theorem eraseDev_eq_of_agree {d₁ d₂ : Device} (h : devicesAgree d₁ d₂ = true) : eraseDev d₁ = eraseDev d₂ := by
  simp only [devicesAgree, Bool.and_eq_true] at h
  simp only [eraseDev, map_timing_of_agree h.1, map_timing_of_agree h.2]

/-! ### the strict comparison -/

theorem strictMatch_iff {params : List String} {eom : Bool} {a b : ChanCfg} :
    strictMatch params eom a b = true ↔
      ∀ p ∈ params, guardHolds p eom a b = true → paramEq p a b = true := by
  simp only [strictMatch, List.all_eq_true, Bool.or_eq_true, Bool.not_eq_true']
  exact forall₂_congr fun p _ => by cases guardHolds p eom a b <;> simp

theorem strictMatch_model_iff {eom : Bool} {a b : ChanCfg} :
    strictMatch modelStrictParams eom a b = true ↔
      get a "type" = get b "type" ∧ get a "basis" = get b "basis" ∧ get a "addressing" = get b "addressing" ∧
      (eom = true → b.eom.isSome = true) ∧
      (eom = true → get a "eom_config.mod_bandwidth" = get b "eom_config.mod_bandwidth") ∧
      get a "mod_bandwidth" = get b "mod_bandwidth" ∧ get a "fixed_retarget_t" = get b "fixed_retarget_t" ∧
      get a "clock_period" = get b "clock_period" ∧
      ((checkRetarget a || checkRetarget b) = true → get a "min_retarget_interval" = get b "min_retarget_interval") ∧
      get a "min_duration" = get b "min_duration" ∧ get a "phase_jump_time" = get b "phase_jump_time" := by
  simp only [strictMatch_iff, modelStrictParams, List.forall_mem_cons, List.not_mem_nil, guardHolds, paramEq,
    String.reduceEq, ↓reduceIte, or_false, or_true, or_self, forall_const, false_imp_iff, and_true, beq_iff_eq]

/-- One refusing statement of `check_channels_match`. -/
theorem refuse_ok_iff {c : Bool} {x r : MatchRes} (hx : x ≠ .ok) :
    (if c = true then x else r) = .ok ↔ c = false ∧ r = .ok := by
  cases c <;> simp [hx]

/-! ### soundness of a complete strict comparison -/

theorem strictMatch_mono {ps qs : List String} (h : ∀ f ∈ qs, f ∈ ps) {eom : Bool} {a b : ChanCfg}
    (hm : strictMatch ps eom a b = true) : strictMatch qs eom a b = true :=
  strictMatch_iff.mpr fun f hf => strictMatch_iff.mp hm f (h f hf)

/-- The comparison of the model names exactly the static timing parameters, so a comparison that
covers those is at least as strict. -/
theorem strictMatch_model_of_covers {params : List String}
    (hcov : ∀ f ∈ timingFields, f ∉ dynamicFields → f ∈ params) {eom : Bool} {a b : ChanCfg}
    (hm : strictMatch params eom a b = true) : strictMatch modelStrictParams eom a b = true := by
  refine strictMatch_mono (fun f hf => ?_) hm
  have : f ∈ timingFields ∧ f ∉ dynamicFields := by
    revert f
    simp only [modelStrictParams, List.forall_mem_cons, List.not_mem_nil, false_imp_iff, implies_true, and_true]
    -- membership first, by position (no name is compared with another); then the two dynamic names
    simp only [timingFields, List.mem_cons, true_or, or_true, true_and]
    simp only [dynamicFields, List.mem_cons, List.not_mem_nil, or_false, String.reduceEq, not_false_eq_true, and_self]
  exact hcov f this.1 this.2

/-- `min_retarget_interval` is compared only under `check_retarget`, which holds (on a well-formed
channel) exactly where `add_target` sees the interval. -/
theorem effMinRetarget_congr {a b : ChanCfg} (wa : retargetWF a = true) (wb : retargetWF b = true)
    (hf : a.fixedRetarget = b.fixedRetarget)
    (h : (checkRetarget a || checkRetarget b) = true → a.minRetarget = b.minRetarget) :
    effMinRetarget a = effMinRetarget b := by
  simp only [retargetWF, checkRetarget, Bool.or_eq_true, Bool.and_eq_true, decide_eq_true_eq] at wa wb h
  unfold effMinRetarget
  by_cases hc : (a.isLocal = true ∧ a.fixedRetarget < a.minRetarget) ∨ (b.isLocal = true ∧ b.fixedRetarget < b.minRetarget)
  · rw [h hc, hf]
  · -- neither interval is looked at: each is covered by its fixed time
    rw [if_pos (Nat.le_of_not_lt fun hn => hc (.inl ⟨wa.resolve_right (Nat.not_le_of_lt hn), hn⟩)),
      if_pos (Nat.le_of_not_lt fun hn => hc (.inr ⟨wb.resolve_right (Nat.not_le_of_lt hn), hn⟩))]

/-- **A strict comparison that covers every static timing parameter is sound**: the two
configurations have the same erased form apart from the EOM configuration, which a channel whose
EOM mode is never enabled (`eom = false`) does not use. -/
theorem strictMatch_sound {params : List String}
    (hcov : ∀ f ∈ timingFields, f ∉ dynamicFields → f ∈ params) {eom : Bool} {a b : ChanCfg}
    (wa : retargetWF a = true) (wb : retargetWF b = true) (hm : strictMatch params eom a b = true) :
    timing (noEom a) = timing (noEom b) := by
  have h := strictMatch_model_iff.mp (strictMatch_model_of_covers hcov hm)
  simp only [get_rows, FVal.ty.injEq, FVal.bool.injEq, FVal.nat.injEq] at h
  obtain ⟨⟨t1, t2⟩, -, hl, -, -, hr, hfr, hc, hmr, hmd, hp⟩ := h
  exact timing_ext t1 t2 hl hc hmd hr hp hfr (effMinRetarget_congr wa wb hfr hmr) rfl

/-- … and in full for a channel whose EOM mode is used, given the two EOM buffer parameters that only
the post-replay sample comparison covers. -/
theorem strictMatch_sound_eom {params : List String}
    (hcov : ∀ f ∈ timingFields, f ∉ dynamicFields → f ∈ params) {a b : ChanCfg}
    (wa : retargetWF a = true) (wb : retargetWF b = true) (hm : strictMatch params true a b = true)
    (hdyn : agreeOn dynamicFields a b = true) : timing a = timing b := by
  have core := strictMatch_sound hcov wa wb hm
  have h := (strictMatch_model_iff.mp (strictMatch_model_of_covers hcov hm)).2.2.2.2.1 rfl
  simp only [agreeOn_iff, dynamicFields, List.forall_mem_cons, get_rows, FVal.onat.injEq] at h hdyn
  have he : a.eom = b.eom := eom_ext h hdyn.1 hdyn.2.1
  -- (`rfl` alone has to unfold `timing` on a variable; on the constructor it is immediate)
  have restore : ∀ c : ChanCfg, timing c = { timing (noEom c) with eom := c.eom } := fun c => by cases c; rfl
  rw [restore a, restore b, core, he]

theorem covers_of_missing_nil {params samples : List String} (h : strictMissing params samples = []) :
    ∀ f ∈ timingFields, f ∉ dynamicFields → f ∈ params := by
  intro f hf hd
  have := List.filter_eq_nil_iff.mp h f hf
  simpa [hd] using this

/-- A pair of channels that a complete strict comparison accepts. -/
def pairOk (params : List String) (a b : ChanCfg) : Bool :=
  retargetWF a && retargetWF b &&
    ((a.eom.isNone && b.eom.isNone && strictMatch params false a b) ||
     (a.eom.isSome && strictMatch params true a b && agreeOn dynamicFields a b))

def listOk (params : List String) (l₁ l₂ : List ChanCfg) : Bool :=
  l₁.length == l₂.length && (l₁.zip l₂).all fun (a, b) => pairOk params a b

theorem noEom_of_isNone {a : ChanCfg} (h : a.eom.isNone = true) : noEom a = a := by
  cases a
  simp only [noEom, ChanCfg.mk.injEq, true_and, and_true]
  exact (Option.isNone_iff_eq_none.mp h).symm

theorem timing_of_pairOk {params samples : List String} (h : strictMissing params samples = [])
    {a b : ChanCfg} (hp : pairOk params a b = true) : timing a = timing b := by
  simp only [pairOk, Bool.and_eq_true, Bool.or_eq_true] at hp
  obtain ⟨⟨wa, wb⟩, ⟨⟨ha, hb⟩, hm⟩ | ⟨⟨-, hm⟩, hd⟩⟩ := hp
  · rw [← noEom_of_isNone ha, ← noEom_of_isNone hb]
    exact strictMatch_sound (covers_of_missing_nil h) wa wb hm
  · exact strictMatch_sound_eom (covers_of_missing_nil h) wa wb hm hd

theorem map_timing_of_listOk {params samples : List String} (h : strictMissing params samples = [])
    {l₁ l₂ : List ChanCfg} (hl : listOk params l₁ l₂ = true) : l₁.map timing = l₂.map timing :=
  map_eq_of_zip_all (p := pairOk params) (fun _ _ => timing_of_pairOk h) hl

end Switch
end Pulser
