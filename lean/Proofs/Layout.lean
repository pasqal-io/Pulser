/-
  Proofs.Layout — helper lemmas for C19 (trap numbering, look-ups, weight maps).
  Core Lean only.
-/
import PulserModel.Layout
namespace Pulser
namespace Layout

theorem lexLt_iff_lt {a b : Coord} : lexLt a b = true ↔ a < b := by
  induction a generalizing b with
  | nil => cases b <;> simp [lexLt]
  | cons x xs ih => cases b <;> simp [lexLt, ih, List.cons_lt_cons_iff]

theorem lexLe_iff_le {a b : Coord} : lexLe a b = true ↔ a ≤ b := by
  rw [lexLe, Bool.not_eq_true', ← Bool.not_eq_true, lexLt_iff_lt, List.not_lt]

theorem lexLe_total (a b : Coord) : lexLe a b = true ∨ lexLe b a = true := by
  simp only [lexLe_iff_le]; exact List.le_total a b

theorem lexLe_antisymm {a b : Coord} (h₁ : lexLe a b = true) (h₂ : lexLe b a = true) : a = b :=
  List.le_antisymm (lexLe_iff_le.mp h₁) (lexLe_iff_le.mp h₂)

theorem lexLe_trans {a b c : Coord} (h₁ : lexLe a b = true) (h₂ : lexLe b c = true) :
    lexLe a c = true :=
  lexLe_iff_le.mpr (List.le_trans (lexLe_iff_le.mp h₁) (lexLe_iff_le.mp h₂))

theorem lexLt_of_lexLe_of_ne {a b : Coord} (h : lexLe a b = true) (hne : a ≠ b) :
    lexLt a b = true :=
  lexLt_iff_lt.mpr ((List.le_iff_lt_or_eq.mp (lexLe_iff_le.mp h)).resolve_right hne)

section SortSec
variable {α : Type} (le : α → α → Bool)

theorem insertBy_perm (a : α) (l : List α) : (insertBy le a l).Perm (a :: l) := by
  induction l with
  | nil => exact .refl _
  | cons b bs ih =>
    unfold insertBy
    split
    · exact .refl _
    · exact (List.Perm.cons b ih).trans (List.Perm.swap a b bs)

theorem sortBy_perm (l : List α) : (sortBy le l).Perm l := by
  induction l with
  | nil => exact .refl _
  | cons a l ih => exact (insertBy_perm le a _).trans (ih.cons a)

theorem insertBy_sorted (total : ∀ a b, le a b = true ∨ le b a = true)
    (trans : ∀ a b c, le a b = true → le b c = true → le a c = true)
    (a : α) (l : List α) (h : l.Pairwise (fun x y => le x y = true)) :
    (insertBy le a l).Pairwise (fun x y => le x y = true) := by
  induction l with
  | nil => simp [insertBy]
  | cons b bs ih =>
    rw [List.pairwise_cons] at h
    unfold insertBy
    split
    · rename_i hab
      rw [List.pairwise_cons]
      refine ⟨?_, List.pairwise_cons.mpr h⟩
      intro c hc
      rcases List.mem_cons.mp hc with rfl | hc
      · exact hab
      · exact trans _ _ _ hab (h.1 c hc)
    · rename_i hab
      rw [List.pairwise_cons]
      refine ⟨?_, ih h.2⟩
      intro c hc
      rcases List.mem_cons.mp ((insertBy_perm le a bs).mem_iff.mp hc) with rfl | hc
      · exact (total c b).resolve_left hab
      · exact h.1 c hc

theorem sortBy_sorted (total : ∀ a b, le a b = true ∨ le b a = true)
    (trans : ∀ a b c, le a b = true → le b c = true → le a c = true) (l : List α) :
    (sortBy le l).Pairwise (fun x y => le x y = true) := by
  induction l with
  | nil => simp [sortBy]
  | cons a l ih => exact insertBy_sorted le total trans a _ ih

theorem sortBy_eq_of_perm (total : ∀ a b, le a b = true ∨ le b a = true)
    (trans : ∀ a b c, le a b = true → le b c = true → le a c = true)
    {l₁ l₂ : List α} (hp : l₁.Perm l₂)
    (antisymm : ∀ a b, a ∈ l₁ → b ∈ l₁ → le a b = true → le b a = true → a = b) :
    sortBy le l₁ = sortBy le l₂ := by
  apply List.Perm.eq_of_pairwise (le := fun x y => le x y = true)
  · intro a b ha hb
    exact antisymm a b ((sortBy_perm le l₁).mem_iff.mp ha)
      (hp.mem_iff.mpr ((sortBy_perm le l₂).mem_iff.mp hb))
  · exact sortBy_sorted le total trans l₁
  · exact sortBy_sorted le total trans l₂
  · exact (sortBy_perm le l₁).trans (hp.trans (sortBy_perm le l₂).symm)

end SortSec

theorem sortLex_perm (l : List Coord) : (sortLex l).Perm l := sortBy_perm lexLe l

theorem sortLex_sorted (l : List Coord) : (sortLex l).Pairwise (fun a b => lexLe a b = true) :=
  sortBy_sorted lexLe lexLe_total (fun _ _ _ => lexLe_trans) l

theorem sortLex_length (l : List Coord) : (sortLex l).length = l.length :=
  (sortLex_perm l).length_eq

theorem sortLex_nodup {l : List Coord} (h : l.Nodup) : (sortLex l).Nodup :=
  (sortLex_perm l).nodup_iff.mpr h

theorem sortLex_strict {l : List Coord} (h : l.Nodup) :
    (sortLex l).Pairwise (fun a b => lexLt a b = true) :=
  (sortLex_sorted l).imp₂ (fun _ _ => lexLt_of_lexLe_of_ne) (sortLex_nodup h)

theorem sortLex_eq_of_perm {l₁ l₂ : List Coord} (hp : l₁.Perm l₂) : sortLex l₁ = sortLex l₂ :=
  sortBy_eq_of_perm lexLe lexLe_total (fun _ _ _ => lexLe_trans) hp
    (fun _ _ _ _ h₁ h₂ => lexLe_antisymm h₁ h₂)

theorem sortLex_eq_iff_perm {l₁ l₂ : List Coord} : sortLex l₁ = sortLex l₂ ↔ l₁.Perm l₂ :=
  ⟨fun h => (sortLex_perm l₁).symm.trans (h ▸ sortLex_perm l₂), sortLex_eq_of_perm⟩

theorem map_fst_insertBy {β : Type} (p : Coord × β) (l : List (Coord × β)) :
    (insertBy keyLe p l).map (·.1) = insertBy lexLe p.1 (l.map (·.1)) := by
  induction l with
  | nil => rfl
  | cons q qs ih =>
    by_cases h : lexLe p.1 q.1 = true
    · simp [insertBy, keyLe, h]
    · simp [insertBy, keyLe, h, ih]

theorem map_fst_sortPairs {β : Type} (l : List (Coord × β)) :
    (sortPairs l).map (·.1) = sortLex (l.map (·.1)) := by
  induction l with
  | nil => rfl
  | cons p ps ih =>
    show (insertBy keyLe p (sortBy keyLe ps)).map (·.1) = insertBy lexLe p.1 (sortBy lexLe (ps.map (·.1)))
    rw [map_fst_insertBy]
    exact congrArg _ ih

theorem sortPairs_perm {β : Type} (l : List (Coord × β)) : (sortPairs l).Perm l :=
  sortBy_perm keyLe l

theorem eq_of_fst_eq {β : Type} {l : List (Coord × β)} (h : (l.map (·.1)).Nodup)
    {a b : Coord × β} (ha : a ∈ l) (hb : b ∈ l) (e : a.1 = b.1) : a = b :=
  have hp := List.pairwise_map.mp h
  -- an element agrees with itself; two different positions of `l`, in either order, differ in the key
  List.Pairwise.forall_of_forall_of_flip (R := fun a b => a.1 = b.1 → a = b) (fun _ _ _ => rfl)
    (hp.imp fun hne e => absurd e hne) (hp.imp fun hne e => absurd e.symm hne) ha hb e

theorem sortPairs_eq_of_perm {β : Type} {l₁ l₂ : List (Coord × β)} (hp : l₁.Perm l₂)
    (hn : (l₁.map (·.1)).Nodup) : sortPairs l₁ = sortPairs l₂ :=
  sortBy_eq_of_perm keyLe (fun p q => lexLe_total p.1 q.1) (fun _ _ _ => lexLe_trans) hp
    (fun _ _ ha hb h₁ h₂ => eq_of_fst_eq hn ha hb (lexLe_antisymm h₁ h₂))

theorem lookupLast_eq_none {c : Coord} {l : List Coord} (h : c ∉ l) : lookupLast c l = none := by
  induction l with
  | nil => rfl
  | cons d ds ih =>
    simp only [List.mem_cons, not_or] at h
    have hd : (d == c) = false := by simpa using fun e => h.1 e.symm
    simp [lookupLast, ih h.2, hd]

theorem lookupLast_getElem {l : List Coord} (hn : l.Nodup) (k : Nat) (hk : k < l.length) :
    lookupLast l[k] l = some k := by
  induction l generalizing k with
  | nil => simp at hk
  | cons d ds ih =>
    rw [List.nodup_cons] at hn
    cases k with
    | zero => simp [lookupLast, lookupLast_eq_none hn.1]
    | succ k =>
      have hk' : k < ds.length := by simpa using hk
      simp [lookupLast, ih hn.2 k hk']

theorem lookupLast_some {c : Coord} {l : List Coord} {i : Nat} (h : lookupLast c l = some i) :
    l[i]? = some c := by
  induction l generalizing i with
  | nil => simp [lookupLast] at h
  | cons d ds ih =>
    unfold lookupLast at h
    split at h
    · rename_i j hj
      cases h
      exact List.getElem?_cons_succ.trans (ih hj)
    · split at h
      · rename_i hd
        cases h
        rw [List.getElem?_cons_zero, eq_of_beq hd]
      · cases h

theorem trapCoord_eq (L : Layout) {i : Nat} (h : i < L.sorted.length) :
    L.trapCoord i = L.sorted[i] := by
  simp [Layout.trapCoord, List.getD, List.getElem?_eq_getElem h]

theorem sorted_length (L : Layout) : L.sorted.length = L.nTraps := sortLex_length _

theorem trapsFromCoords_map (L : Layout) (hn : L.sorted.Nodup) (ids : List Nat)
    (hb : ∀ i ∈ ids, i < L.nTraps) : trapsFromCoords L (ids.map L.trapCoord) = .ok ids := by
  induction ids with
  | nil => rfl
  | cons i is ih =>
    have hi : i < L.sorted.length := by rw [sorted_length]; exact hb i (List.mem_cons_self)
    have := ih (fun j hj => hb j (List.mem_cons_of_mem _ hj))
    simp [trapsFromCoords, trapCoord_eq L hi, lookupLast_getElem hn i hi, this]

theorem trapsFromCoords_ok {L : Layout} {cs : List Coord} {is : List Nat}
    (h : trapsFromCoords L cs = .ok is) : (∀ i ∈ is, i < L.nTraps) ∧ is.map L.trapCoord = cs := by
  induction cs generalizing is with
  | nil => cases h; exact ⟨nofun, rfl⟩
  | cons c rest ih =>
    unfold trapsFromCoords at h
    split at h
    · cases h
    · rename_i i hi
      split at h
      · rename_i js hjs
        cases h
        have hc := lookupLast_some hi
        obtain ⟨hb, hm⟩ := ih hjs
        have hlt : i < L.sorted.length := (List.getElem?_eq_some_iff.mp hc).1
        exact ⟨List.forall_mem_cons.mpr ⟨sorted_length L ▸ hlt, hb⟩,
          by simp [Layout.trapCoord, List.getD, hc, hm]⟩
      · cases h

theorem trapsFromCoords_eq_ok_iff {L : Layout} (hn : L.coords.Nodup) {cs : List Coord}
    {ids : List Nat} :
    trapsFromCoords L cs = .ok ids ↔ (∀ i ∈ ids, i < L.nTraps) ∧ ids.map L.trapCoord = cs :=
  ⟨trapsFromCoords_ok, fun ⟨hb, e⟩ => e ▸ trapsFromCoords_map L (sortLex_nodup hn) ids hb⟩

theorem defaultIds_length (n : Nat) : (defaultIds n).length = n := by simp [defaultIds]

/-- One link of a chain of checks: `if c: raise e` followed by `r` succeeds iff `c` fails and `r`
succeeds.  Every constructor of the model is such a chain. -/
theorem ite_err_eq_ok {α : Type} {c : Prop} [Decidable c] {e : LErr} {r : Res α} {x : α} :
    (if c then .err e else r) = .ok x ↔ ¬c ∧ r = .ok x := by
  split <;> simp [*]

theorem all_zip_trapCoord (L : Layout) (qs : List QId) (ids : List Nat) :
    ((qs.zip (ids.map L.trapCoord)).zip ids).all (fun qt => qt.1.2 == L.trapCoord qt.2) = true := by
  induction qs generalizing ids with
  | nil => rfl
  | cons q qs ih =>
    cases ids with
    | nil => rfl
    | cons i is =>
      simp only [List.map_cons, List.zip_cons_cons, List.all_cons, BEq.rfl, Bool.true_and]
      exact ih is

theorem validateLayout_place (L : Layout) {ids : List Nat} {qs : List QId}
    (hl : qs.length = ids.length) (hn : ids.Nodup) :
    validateLayout L L.dim (qs.zip (ids.map L.trapCoord)) ids = none := by
  simp [validateLayout, hn, hl, all_zip_trapCoord]

theorem place_eq_ok_iff {L : Layout} {ids : List Nat} {qs : List QId} {r : Reg}
    (hl : qs.length = ids.length) (hn : ids.Nodup) :
    place L ids qs = .ok r ↔
      ids ≠ [] ∧ { dim := L.dim, qubits := qs.zip (ids.map L.trapCoord), trapIds := ids } = r := by
  have he : (qs.zip (ids.map L.trapCoord)).isEmpty = true ↔ ids = [] := by
    cases ids <;> cases qs <;> simp at hl ⊢
  simp only [place, ite_err_eq_ok, validateLayout_place L hl hn, he, Res.ok.injEq, ne_eq]

theorem place_ok {L : Layout} {ids : List Nat} {qs : List QId} {r : Reg}
    (hn : ids.Nodup) (hl : qs.length = ids.length) (h : place L ids qs = .ok r) :
    ids ≠ [] ∧ r.dim = L.dim ∧ r.trapIds = ids ∧
    r.qubits.map (·.2) = ids.map L.trapCoord ∧ r.qubits.map (·.1) = qs := by
  obtain ⟨hne, rfl⟩ := (place_eq_ok_iff hl hn).mp h
  exact ⟨hne, rfl, rfl, List.map_snd_zip (by simp [hl]), List.map_fst_zip (by simp [hl])⟩

theorem defineRegister_ok {L : Layout} {ids : List Nat} {qids : Option (List QId)} {r : Reg}
    (h : defineRegister L ids qids = .ok r) :
    ids.Nodup ∧ (∀ i ∈ ids, i < L.nTraps) ∧ ids ≠ [] ∧ r.dim = L.dim ∧ r.trapIds = ids ∧
    r.qubits.map (·.2) = ids.map L.trapCoord ∧
    r.qubits.map (·.1) = (match truthy qids with
      | some qs => qs
      | none => defaultIds ids.length) := by
  simp only [defineRegister, ite_err_eq_ok, Decidable.not_not, List.all_eq_true,
    decide_eq_true_eq] at h
  obtain ⟨hn, hb, h⟩ := h
  refine ⟨hn, hb, ?_⟩
  -- either way `place` is called with as many names as traps
  revert h
  cases truthy qids with
  | none => exact place_ok hn (defaultIds_length _)
  | some qs =>
    intro h
    simp only [ite_err_eq_ok, Decidable.not_not] at h
    exact place_ok hn h.2.1 h.2.2

theorem dedup_of_nodup {l : List QId} (h : l.Nodup) : dedup l = l := by
  induction l with
  | nil => rfl
  | cons a l ih =>
    rw [List.nodup_cons] at h
    have hne : ∀ b ∈ l, (b != a) = true := fun b hb => bne_iff_ne.mpr fun e => h.1 (e ▸ hb)
    rw [dedup, ih h.2, List.filter_eq_self.mpr hne]

theorem filter_mem_take_of_nodup {l : List QId} (hn : l.Nodup) (n : Nat) :
    l.filter (fun q => (l.take n).contains q) = l.take n := by
  have hd : ∀ q ∈ l.drop n, ¬ (l.take n).contains q = true := fun q hq hc =>
    List.Pairwise.rel_of_mem_take_of_mem_drop hn (List.contains_iff_mem.mp hc) hq rfl
  -- filter the two halves of `l = l.take n ++ l.drop n` separately
  conv => lhs; arg 2; rw [← List.take_append_drop n l]
  rw [List.filter_append, List.filter_eq_self.mpr fun q hq => List.contains_iff_mem.mpr hq,
    List.filter_eq_nil_iff.mpr hd, List.append_nil]

theorem lookup_of_mem_nodup {l : List (QId × Nat)} (hn : (l.map (·.1)).Nodup) {q : QId} {t : Nat}
    (h : (q, t) ∈ l) : l.lookup q = some t := by
  obtain ⟨l₁, l₂, rfl⟩ := List.append_of_mem h
  rw [List.map_append, List.map_cons, List.nodup_append] at hn
  exact List.lookup_eq_some_iff.mpr ⟨l₁, l₂, rfl, fun p hp => bne_iff_ne.mpr fun e =>
    hn.2.2 p.1 (List.mem_map_of_mem hp) q List.mem_cons_self e.symm⟩

theorem sameSet_contains {a b : List QId} (h : sameSet a b = true) (q : QId) :
    a.contains q = b.contains q := by
  simp only [sameSet, Bool.and_eq_true, List.all_eq_true] at h
  exact Bool.eq_iff_iff.mpr
    ⟨fun hq => h.1 q (List.contains_iff_mem.mp hq), fun hq => h.2 q (List.contains_iff_mem.mp hq)⟩

/-- A successful `build_register` is `define_register` on the first `len(qubits)` declared ids, in
declared order: the chosen ids are that prefix as a set, so filtering the declared ids by them
gives the prefix itself. -/
theorem buildRegister_ok {M : Mappable} {mapping : List (QId × Nat)} {r : Reg} (hn : M.qids.Nodup)
    (h : buildRegister M mapping = .ok r) :
    sameSet (mapping.map (·.1)) (M.qids.take mapping.length) = true ∧
    defineRegister M.layout ((M.qids.take mapping.length).map fun q => (mapping.lookup q).getD 0)
      (some (M.qids.take mapping.length)) = .ok r := by
  simp only [buildRegister, ite_err_eq_ok, Decidable.not_not, List.length_map] at h
  obtain ⟨_, hs, h⟩ := h
  have hf : M.qids.filter (fun q => (mapping.map (·.1)).contains q) = M.qids.take mapping.length := by
    rw [← filter_mem_take_of_nodup hn mapping.length]
    exact List.filter_congr fun q _ => sameSet_contains hs q
  rw [hf, dedup_of_nodup (hn.sublist (List.take_sublist _ _))] at h
  simpa only [List.map_map, Function.comp_def, List.map_id'] using And.intro hs h

theorem sum_perm {l₁ l₂ : List Rat} (h : l₁.Perm l₂) : l₁.sum = l₂.sum :=
  h.foldr_eq' (f := (· + ·)) (fun x _ y _ z => Rat.add_left_comm y x z) 0

theorem closeTo_self (x : Int) : closeTo x x = true := by simp [closeTo]

theorem closeCoord_self (c : Coord) : closeCoord c c = true := by
  simp [closeCoord, closeTo_self]

theorem weightOf_eq_unsorted (m : WeightMap) (p : Coord) :
    m.weightOf p = ((m.traps.filter fun tw => closeCoord tw.1 p).map (·.2)).sum :=
  sum_perm (((sortPairs_perm m.traps).filter _).map _)

theorem filter_eq_singleton {α : Type} {p : α → Bool} {l : List α} {a : α} (hn : l.Nodup)
    (ha : a ∈ l) (hp : p a = true) (hu : ∀ x ∈ l, p x = true → x = a) : l.filter p = [a] := by
  obtain ⟨l₁, l₂, rfl⟩ := List.append_of_mem ha
  obtain ⟨_, h2, h12⟩ := List.nodup_append.mp hn
  have e1 : l₁.filter p = [] := List.filter_eq_nil_iff.mpr fun x hx hpx =>
    h12 x hx a List.mem_cons_self (hu x (List.mem_append_left _ hx) hpx)
  have e2 : l₂.filter p = [] := List.filter_eq_nil_iff.mpr fun x hx hpx =>
    (List.nodup_cons.mp h2).1 (hu x (List.mem_append_right _ (List.mem_cons_of_mem _ hx)) hpx ▸ hx)
  rw [List.filter_append, List.filter_cons_of_pos hp, e1, e2]
  rfl

theorem nodup_of_nodup_map_fst {β : Type} {l : List (Coord × β)} (h : (l.map (·.1)).Nodup) :
    l.Nodup :=
  (List.pairwise_map.mp h).imp fun hne e => hne (congrArg Prod.fst e)

theorem allOnTraps_iff (L : Layout) {qs : List (QId × RPos)} {ids : List Nat}
    (hl : ids.length = qs.length) :
    allOnTraps L qs ids = true ↔
      qs.map (·.2) = ids.map (fun t => (L.trapCoord t).map (fun (z : Int) => (z : Rat))) := by
  induction qs generalizing ids with
  | nil => cases ids <;> simp [allOnTraps] at hl ⊢
  | cons q qs ih =>
    cases ids with
    | nil => simp at hl
    | cons i is =>
      simp only [allOnTraps, Bool.and_eq_true, onTrap, beq_iff_eq, List.map_cons, List.cons.injEq,
        ih (Nat.succ.inj hl)]

theorem mkRegisterDirect_eq_ok_iff {L : Layout} {dim : Nat} {qs : List (QId × RPos)}
    {ids : List Nat} {r : Reg} :
    mkRegisterDirect L dim qs ids = .ok r ↔
      qs ≠ [] ∧ L.dim = dim ∧ ids.Nodup ∧ (∀ i ∈ ids, i < L.nTraps) ∧ ids.length = qs.length ∧
      allOnTraps L qs ids = true ∧
      { dim := dim, qubits := (qs.map (·.1)).zip (ids.map L.trapCoord), trapIds := ids } = r := by
  simp only [mkRegisterDirect, ite_err_eq_ok, Decidable.not_not, List.isEmpty_iff, List.all_eq_true,
    decide_eq_true_eq, Res.ok.injEq, ne_eq]

end Layout
end Pulser
