/-
  Proofs.Switch — erasing the limits is a simulation (property C18): a call accepted on `s` is
  accepted on `erase s` (no limits, `min_retarget_interval` as `add_target` sees it) with the erased
  result (`stepRaw_erase`), hence `C18.timing_congr`.  The statement is one-directional and
  conditional on success: a limit can only refuse a call, so the erased run accepts more, and
  nothing relates the two runs once the original has raised.  At each level of the model one
  relation says "the erased computation reproduces an accepted result" — `OkE` for `Except`, `OkC`
  for `CRes`, `OkR` for `Raw` — with one rule per construct the model is written in (sequencing,
  test, refusal, `lift`, `withChan`, `store`, `orRollback`, …); a function of the model is covered
  by composing the rules along its body, the erased tests being the original ones by unfolding
  `erase` (`.guard id`).  The leaves that are not `rfl` are the limit checks (`validateDuration`,
  `checkDuration`, `validatePulse`, `max_targets`, `available`) and `retargetDelta`.  A rule for a
  `match` applies only where it is stated at the types of the model's own `match` (two different
  matchers on a stuck discriminant do not unify): `OkR.validated` and `OkR.declared` are the two that
  recur; elsewhere the discriminant is case-split and the erased one rewritten.
-/
import Proofs.SwitchFields
import Proofs.Limits
import Proofs.Steps
namespace Pulser
namespace Switch

/-! ### the erased configuration -/

@[simp] theorem timing_isDmm (c : ChanCfg) : (timing c).isDmm = c.isDmm := rfl
@[simp] theorem timing_basis (c : ChanCfg) : (timing c).basis = c.basis := rfl
@[simp] theorem timing_isLocal (c : ChanCfg) : (timing c).isLocal = c.isLocal := rfl
@[simp] theorem timing_clock (c : ChanCfg) : (timing c).clock = c.clock := rfl
@[simp] theorem timing_minDur (c : ChanCfg) : (timing c).minDur = c.minDur := rfl
@[simp] theorem timing_maxDur (c : ChanCfg) : (timing c).maxDur = none := rfl
@[simp] theorem timing_rise (c : ChanCfg) : (timing c).rise = c.rise := rfl
@[simp] theorem timing_pjt (c : ChanCfg) : (timing c).pjt = c.pjt := rfl
@[simp] theorem timing_minRetarget (c : ChanCfg) : (timing c).minRetarget = effMinRetarget c := rfl
@[simp] theorem timing_fixedRetarget (c : ChanCfg) : (timing c).fixedRetarget = c.fixedRetarget := rfl
@[simp] theorem timing_maxTargets (c : ChanCfg) : (timing c).maxTargets = none := rfl
@[simp] theorem timing_eom (c : ChanCfg) : (timing c).eom = c.eom := rfl
@[simp] theorem timing_maxAmp (c : ChanCfg) : (timing c).maxAmp = none := rfl
@[simp] theorem timing_maxAbsDet (c : ChanCfg) : (timing c).maxAbsDet = none := rfl
@[simp] theorem timing_minAvgAmp (c : ChanCfg) : (timing c).minAvgAmp = 0 := rfl
@[simp] theorem timing_bottom (c : ChanCfg) : (timing c).bottom = none := rfl
@[simp] theorem timing_totalBottom (c : ChanCfg) : (timing c).totalBottom = none := rfl

@[simp] theorem eraseChan_cfg (c : ChanState) : (eraseChan c).cfg = timing c.cfg := rfl
@[simp] theorem eraseChan_name (c : ChanState) : (eraseChan c).name = c.name := rfl
@[simp] theorem eraseChan_chId (c : ChanState) : (eraseChan c).chId = c.chId := rfl
@[simp] theorem eraseChan_slots (c : ChanState) : (eraseChan c).slots = c.slots := rfl
@[simp] theorem eraseChan_eom (c : ChanState) : (eraseChan c).eom = c.eom := rfl
@[simp] theorem eraseChan_maxW (c : ChanState) : (eraseChan c).maxW = c.maxW := rfl
@[simp] theorem eraseChan_sumW (c : ChanState) : (eraseChan c).sumW = c.sumW := rfl
@[simp] theorem eraseChan_ddOracle (c : ChanState) : (eraseChan c).ddOracle = c.ddOracle := rfl
@[simp] theorem eraseChan_last (c : ChanState) : (eraseChan c).last = c.last := rfl
@[simp] theorem eraseChan_inEomMode (c : ChanState) : (eraseChan c).inEomMode = c.inEomMode := rfl
@[simp] theorem eraseChan_lastTarget (c : ChanState) : (eraseChan c).lastTarget = c.lastTarget := rfl
@[simp] theorem eraseChan_lastPulseSlot (c : ChanState) (b : Bool) :
    (eraseChan c).lastPulseSlot b = c.lastPulseSlot b := rfl
@[simp] theorem eraseChan_lastPulsePhase (c : ChanState) : (eraseChan c).lastPulsePhase = c.lastPulsePhase := rfl
@[simp] theorem eraseChan_getDuration (c : ChanState) (b : Bool) :
    (eraseChan c).getDuration b = c.getDuration b := rfl
@[simp] theorem eraseChan_lookupDD (c : ChanState) (x : Rat) (d : Nat) :
    (eraseChan c).lookupDD x d = c.lookupDD x d := rfl
@[simp] theorem eraseChan_withSlots (c : ChanState) (l : List Slot) :
    eraseChan { c with slots := l } = { eraseChan c with slots := l } := rfl
@[simp] theorem eraseChan_withEom (c : ChanState) (l : List EomBlock) :
    eraseChan { c with eom := l } = { eraseChan c with eom := l } := rfl

/-! ### reproducing successes -/

/-- `y` reproduces every success of `x`, up to `e` (`e` is `eraseChan` on channels, `id` on values
that carry no configuration). -/
def OkE {α β : Type} (e : α → β) (x : Except Err α) (y : Except Err β) : Prop := ∀ a, x = .ok a → y = .ok (e a)

namespace OkE
variable {α β γ δ : Type} {e : α → β} {e' : γ → δ}

theorem ok {a : α} : OkE e (.ok a) (.ok (e a)) := fun _ h => by cases h; rfl
theorem error {err : Err} {y : Except Err β} : OkE e (.error err) y := nofun

theorem bind {x : Except Err α} {y : Except Err β} {f : α → Except Err γ} {g : β → Except Err δ}
    (hx : OkE e x y) (hf : ∀ a, OkE e' (f a) (g (e a))) : OkE e' (x >>= f) (y >>= g) := by
  intro b h
  cases x with
  | error _ => cases h
  | ok a => rw [hx a rfl]; exact hf a b h

theorem ite {c : Prop} [Decidable c] {x x' : Except Err α} {y y' : Except Err β}
    (h1 : c → OkE e x y) (h2 : ¬c → OkE e x' y') : OkE e (if c then x else x') (if c then y else y') := by
  split
  · exact h1 ‹_›
  · exact h2 ‹_›

end OkE

/-! ### the duration checks and the retarget time -/

theorem checkDuration_none (t : Int) : checkDuration none t = .ok () := rfl

theorem checkDuration_okE {m : Option Nat} {t : Int} : OkE id (checkDuration m t) (checkDuration none t) :=
  fun _ _ => rfl

theorem validateDuration_okE {c : ChanCfg} {d : Nat} : OkE id (validateDuration c d) (validateDuration (timing c) d) := by
  intro r h
  obtain ⟨h1, h2, _⟩ := validateDuration_iff.mp h
  exact validateDuration_iff.mpr ⟨h1, h2, nofun⟩

theorem adjust_okE {c : ChanState} {d : Nat} : OkE id (c.adjust d) ((eraseChan c).adjust d) :=
  validateDuration_okE

/-- The optional adjusted wait of `add_target` and `make_next_pulse_slot`. -/
theorem adjustIf_okE {p : Prop} [Decidable p] {c : ChanState} {n : Nat} :
    OkE id (if p then c.adjust n else .ok 0) (if p then (eraseChan c).adjust n else .ok 0) :=
  .ite (fun _ => adjust_okE) fun _ => .ok

theorem last_okE {c : ChanState} : OkE id c.last (eraseChan c).last := fun _ h => h

theorem mkDetunedDelay_erase (c : ChanState) (d : Nat) (x y : Rat) :
    mkDetunedDelay (eraseChan c) d x y = mkDetunedDelay c d x y := rfl

theorem mkDetunedDelay_okE {c : ChanState} {d : Nat} {x y : Rat} :
    OkE id (mkDetunedDelay c d x y) (mkDetunedDelay (eraseChan c) d x y) := fun _ h => h

theorem retargetDelta_eff (c : ChanState) (ti : Int) :
    retargetDelta (eraseChan c) ti = retargetDelta c ti := by
  by_cases h : effMinRetarget c.cfg = c.cfg.minRetarget
  · unfold retargetDelta
    rw [show (eraseChan c).cfg.minRetarget = c.cfg.minRetarget from h]; rfl
  · -- the interval was erased: a fixed time covers it, and is not 0 since the interval is not
    have hle : c.cfg.minRetarget ≤ c.cfg.fixedRetarget := Decidable.by_contra fun hn => h (if_neg hn)
    have h0 : (eraseChan c).cfg.minRetarget = 0 := if_pos hle
    have hf : c.cfg.fixedRetarget ≠ 0 := fun hf => h (h0.trans (Nat.le_zero.mp (hf ▸ hle)).symm)
    -- a value clipped to `[0, r]` disappears under `max · f` when `r ≤ f`: both sides are the fixed time
    have clip : ∀ {x r f : Int}, r ≤ f → max (min x r) f = f := fun h =>
      Int.max_eq_right (Int.le_trans (Int.min_le_right _ _) h)
    unfold retargetDelta
    rw [if_pos (show (eraseChan c).cfg.fixedRetarget ≠ 0 from hf), if_pos hf, h0]
    exact (clip (Int.ofNat_le.mpr (Nat.zero_le _))).trans (clip (Int.ofNat_le.mpr hle)).symm

theorem sameTargets_erase (c : ChanState) (qs : List Nat) : sameTargets (eraseChan c) qs = sameTargets c qs := rfl

/-! ### scheduler primitives -/

theorem addDelay_okE {m : Option Nat} {c : ChanState} {d : Nat} :
    OkE eraseChan (addDelay m c d) (addDelay none (eraseChan c) d) := by
  unfold addDelay
  refine .bind last_okE fun last => .bind validateDuration_okE fun d' => .bind checkDuration_okE fun _ => ?_
  rw [eraseChan_eom]
  cases c.eom.getLast? with
  | some b => exact .ite (fun _ => .bind mkDetunedDelay_okE fun _ => .ok) fun _ => .ok
  | none => exact .ok

theorem waitForFall_okE {m : Option Nat} {c : ChanState} :
    OkE eraseChan (waitForFall m c) (waitForFall none (eraseChan c)) := by
  unfold waitForFall
  exact .ite (fun _ => .bind adjust_okE fun _ => addDelay_okE) fun _ => .ok

theorem addTargetTail_okE {m : Option Nat} {c : ChanState} {qs : List Nat} :
    OkE eraseChan (addTargetTail m c qs) (addTargetTail none (eraseChan c) qs) := by
  intro c' h
  obtain ⟨last, delta, hl, hadj, -, rfl⟩ := addTargetTail_shape h
  unfold addTargetTail
  rw [eraseChan_last, hl]
  dsimp only
  rw [retargetDelta_eff, adjustIf_okE _ hadj]
  rfl

/-! ### adding pulses -/

theorem findAddDelay_erase (others : List ChanState) (tg : List Nat) (w : Bool) (t0 : Int) :
    findAddDelay (others.map eraseChan) tg w t0 = findAddDelay others tg w t0 := by
  unfold findAddDelay
  induction others generalizing t0 with
  | nil => rfl
  | cons o rest ih => simp only [List.map_cons, List.foldl_cons]; exact ih _

theorem curMaxOf_erase (others : List ChanState) (last : Slot) (b : List Int) (p : Protocol) :
    curMaxOf (others.map eraseChan) last b p = curMaxOf others last b p := by
  unfold curMaxOf
  split
  · exact findAddDelay_erase _ _ _ _
  · rfl

theorem phaseJumpBuffer_erase (c : ChanState) (t0 : Int) (ph : Rat) (p : Protocol) :
    phaseJumpBuffer (eraseChan c) t0 ph p = phaseJumpBuffer c t0 ph p := rfl

theorem makeNextPulseSlot_okE {m : Option Nat} {c : ChanState} {others : List ChanState} {p : PulseRec}
    {b : List Int} {proto : Protocol} {drift : Option Drift} {blk : Bool} :
    OkE id (makeNextPulseSlot m c others p b proto drift blk)
      (makeNextPulseSlot none (eraseChan c) (others.map eraseChan) p b proto drift blk) := by
  unfold makeNextPulseSlot
  rw [eraseChan_last]
  cases c.last with
  | error e => exact .error
  | ok last =>
    dsimp only
    rw [curMaxOf_erase, phaseJumpBuffer_erase]
    intro sl h
    split at h
    · cases h
    · rename_i delay hadj
      rw [adjustIf_okE _ hadj]
      split at h
      · cases h
      · simp only [id, checkDuration_none, ite_self]
        exact h

theorem addPulse_okE {m : Option Nat} {c : ChanState} {others : List ChanState} {p : PulseRec} {b : List Int}
    {proto : Protocol} {drift : Option Drift} :
    OkE eraseChan (addPulse m c others p b proto drift)
      (addPulse none (eraseChan c) (others.map eraseChan) p b proto drift) := by
  unfold addPulse
  exact .bind last_okE fun _ => .bind makeNextPulseSlot_okE fun _ =>
    .ite (fun _ => .bind addDelay_okE fun _ => .ok) fun _ => .bind (e := eraseChan) .ok fun _ => .ok

/-! ### channel-level results -/

/-- The erased result of a channel-level operation. -/
def eraseCRes (r : CRes) : CRes := ⟨eraseChan r.c, r.err⟩

theorem bind_ok {r : CRes} {f : ChanState → CRes} (h : (r.bind f).err = none) :
    r.err = none ∧ (f r.c).err = none ∧ r.bind f = f r.c := by
  unfold CRes.bind at h ⊢
  cases hr : r.err with
  | none => simp only [hr] at h ⊢; exact ⟨trivial, h, trivial⟩
  | some e => simp [hr] at h

/-- The erased operation reproduces an accepted channel-level result. -/
def OkC (r r' : CRes) : Prop := r.err = none → r' = eraseCRes r

/-- `OkC` between functions: `∀ c, OkC (f c) (g (eraseChan c))`. -/
def Sim (f g : ChanState → CRes) : Prop :=
  ∀ c, (f c).err = none → g (eraseChan c) = eraseCRes (f c)

theorem Sim.id : Sim (fun c => ⟨c, none⟩) (fun c => ⟨c, none⟩) := fun _ _ => rfl

namespace OkC

theorem id {c : ChanState} : OkC ⟨c, none⟩ ⟨eraseChan c, none⟩ := Sim.id c

theorem lift {c : ChanState} {x y : Except Err ChanState} (h : OkE eraseChan x y) :
    OkC (CRes.lift c x) (CRes.lift (eraseChan c) y) := by
  intro hc
  cases x with
  | error e => cases hc
  | ok c' => rw [h c' rfl]; rfl

theorem bind {r r' : CRes} {f g : ChanState → CRes} (h : OkC r r') (hf : ∀ c, OkC (f c) (g (eraseChan c))) :
    OkC (r.bind f) (r'.bind g) := by
  intro hc
  obtain ⟨a1, a2, a3⟩ := bind_ok hc
  rw [a3, h a1]
  unfold CRes.bind
  simp only [eraseCRes, a1]
  exact hf _ a2

theorem ite {p : Prop} [Decidable p] {r₁ r₂ r₁' r₂' : CRes} (h1 : p → OkC r₁ r₁') (h2 : ¬p → OkC r₂ r₂') :
    OkC (if p then r₁ else r₂) (if p then r₁' else r₂') := by
  split
  · exact h1 ‹_›
  · exact h2 ‹_›

end OkC

theorem addTarget_okC {m : Option Nat} {c : ChanState} {qs : List Nat} :
    OkC (addTarget m c qs) (addTarget none (eraseChan c) qs) := by
  unfold addTarget
  exact .ite (fun _ => .lift (.bind checkDuration_okE fun _ => .ok)) fun _ =>
    .ite (fun _ => .id) fun _ => .bind (.lift waitForFall_okE) fun _ => .lift addTargetTail_okE

theorem enableEom_okC {m : Option Nat} {c : ChanState} {amp detOn detOff : Rat} {skipB skipW : Bool} :
    OkC (enableEom m c amp detOn detOff skipB skipW) (enableEom none (eraseChan c) amp detOn detOff skipB skipW) := by
  unfold enableEom
  refine .bind (.ite (fun _ => .bind (.ite (fun _ => .lift waitForFall_okE) fun _ => .id) fun c => .lift ?_)
    fun _ => .id) fun c => .lift (.bind last_okE fun _ => .ok)
  exact .bind adjust_okE fun _ => .ite
    (fun _ => .bind mkDetunedDelay_okE fun _ => addPulse_okE (others := [])) fun _ => addDelay_okE

theorem disableEom_okC {m : Option Nat} {c : ChanState} {skip : Bool} :
    OkC (disableEom m c skip) (disableEom none (eraseChan c) skip) := by
  unfold disableEom
  refine .bind (.lift (.bind last_okE fun _ => .ok)) fun c => .ite (fun _ => .id) fun _ => ?_
  show OkC (match c.cfg.eom with | some e => _ | none => _) (match c.cfg.eom with | some e => _ | none => _)
  split
  · exact .ite (fun _ => .lift (.bind adjust_okE fun _ => addDelay_okE)) fun _ => .lift waitForFall_okE
  · exact .lift waitForFall_okE

/-! ### pulse validation -/

/-- Without limits `WithinLimits` asks only for finite samples and, on a DMM, non-positive detuning. -/
theorem validatePulse_okE {c : ChanState} {σ : PulseSummary} :
    OkE id (validatePulse c σ) (validatePulse (eraseChan c) σ) := by
  intro _ h
  obtain ⟨h0, -, -, -, h4⟩ := (validatePulse_iff c σ).mp h
  exact (validatePulse_iff _ σ).mpr ⟨h0, fun _ h => (by cases h), fun _ h => (by cases h),
    fun h => absurd h.2 (Rat.not_lt.mpr (Rat.le_of_lt h.1)),
    fun hd => ⟨(h4 hd).1, fun _ h => (by cases h), fun _ h => (by cases h)⟩⟩

theorem validateAndAdjust_okE {c : ChanState} {p : PulseIn} {r : Option Rat} :
    OkE id (validateAndAdjust c p r) (validateAndAdjust (eraseChan c) p r) := by
  intro pr h
  obtain ⟨d, hv, hd, hadj, rfl⟩ := validateAndAdjust_iff.mp h
  exact validateAndAdjust_iff.mpr ⟨d, validatePulse_okE _ hv, validateDuration_okE _ hd,
    fun hne => ⟨(hadj hne).1, validatePulse_okE _ (hadj hne).2⟩, rfl⟩

theorem processEomParams_okE {c : ChanState} {e : EomIn} :
    OkE id (processEomParams c e) (processEomParams (eraseChan c) e) := by
  intro d h
  obtain ⟨h0, hv, i, σ, hc, ho, hs, hv2⟩ := processEomParams_iff.mp h
  exact processEomParams_iff.mpr ⟨h0, validatePulse_okE _ hv, i, σ, hc, ho, hs, validatePulse_okE _ hv2⟩

/-! ### the sequence state -/

def eraseRaw (r : Raw) : Raw := ⟨erase r.st, r.err, r.out⟩

@[simp] theorem erase_dev (s : SeqState) : (erase s).dev = eraseDev s.dev := rfl
@[simp] theorem erase_chans (s : SeqState) : (erase s).chans = s.chans.map eraseChan := rfl
@[simp] theorem erase_nQ (s : SeqState) : (erase s).nQ = s.nQ := rfl
@[simp] theorem erase_refs (s : SeqState) : (erase s).refs = s.refs := rfl
@[simp] theorem erase_inXY (s : SeqState) : (erase s).inXY = s.inXY := rfl
@[simp] theorem erase_inIsing (s : SeqState) : (erase s).inIsing = s.inIsing := rfl
@[simp] theorem erase_empty (s : SeqState) : (erase s).empty = s.empty := rfl
@[simp] theorem erase_measured (s : SeqState) : (erase s).measured = s.measured := rfl
@[simp] theorem erase_calls (s : SeqState) : (erase s).calls = s.calls := rfl
@[simp] theorem eraseDev_maxSeqDur (d : Device) : (eraseDev d).maxSeqDur = none := rfl
@[simp] theorem eraseDev_reusable (d : Device) : (eraseDev d).reusable = true := rfl
@[simp] theorem eraseDev_chans (d : Device) : (eraseDev d).chans = d.chans.map timing := rfl
@[simp] theorem eraseDev_dmms (d : Device) : (eraseDev d).dmms = d.dmms.map timing := rfl
@[simp] theorem erase_allQubits (s : SeqState) : (erase s).allQubits = s.allQubits := rfl
@[simp] theorem erase_getRefs (s : SeqState) (b : Basis) : (erase s).getRefs b = s.getRefs b := rfl
@[simp] theorem erase_lastPhases (s : SeqState) (b : Basis) (qs : List Nat) :
    (erase s).lastPhases b qs = s.lastPhases b qs := rfl
@[simp] theorem erase_lastTimes (s : SeqState) (b : Basis) (qs : List Nat) :
    (erase s).lastTimes b qs = s.lastTimes b qs := rfl

theorem getChan_erase (s : SeqState) (n : ChName) : (erase s).getChan n = (s.getChan n).map eraseChan := by
  unfold SeqState.getChan
  simp only [erase_chans, List.find?_map]
  rfl

theorem getLast_erase (s : SeqState) (n : ChName) :
    ((erase s).getChan n).bind (·.slots.getLast?) = (s.getChan n).bind (·.slots.getLast?) := by
  rw [getChan_erase]
  cases s.getChan n <;> rfl

theorem replaceChan_erase (c : ChanState) (l : List ChanState) :
    SeqState.replaceChan (eraseChan c) (l.map eraseChan) = (SeqState.replaceChan c l).map eraseChan := by
  induction l with
  | nil => rfl
  | cons x rest ih =>
    by_cases hx : (x.name == c.name) = true
    · simp [SeqState.replaceChan, hx]
    · simp [SeqState.replaceChan, hx, ih]

theorem setChan_erase (s : SeqState) (c : ChanState) : (erase s).setChan (eraseChan c) = erase (s.setChan c) := by
  unfold SeqState.setChan
  simp only [erase, replaceChan_erase]

theorem others_erase (s : SeqState) (n : ChName) : (erase s).others n = (s.others n).map eraseChan := by
  unfold SeqState.others
  simp only [erase_chans, List.filter_map]
  rfl

theorem setRefs_erase (s : SeqState) (b : Basis) (l : List QRef) : (erase s).setRefs b l = erase (s.setRefs b l) := rfl

theorem mapRefs_erase (s : SeqState) (b : Basis) (qs : List Nat) (f : QRef → QRef) :
    (erase s).mapRefs b qs f = erase (s.mapRefs b qs f) := by
  unfold SeqState.mapRefs
  simp only [erase_getRefs]
  cases s.getRefs b <;> rfl

theorem ensureBasis_erase (s : SeqState) (b : Basis) : (erase s).ensureBasis b = erase (s.ensureBasis b) := by
  unfold SeqState.ensureBasis
  simp only [erase_refs, erase_nQ]
  by_cases h : (s.refs.any (·.1 == b)) = true
  · simp only [h, if_true]
  · simp only [h]; rfl

theorem validateChannel_okE {s : SeqState} {n : ChName} {b : Bool} :
    OkE eraseChan (s.validateChannel n b) ((erase s).validateChannel n b) := by
  unfold SeqState.validateChannel
  rw [getChan_erase]
  cases s.getChan n with
  | none => exact .error
  | some c => exact .ite (fun _ => .error) fun _ => .ok

theorem measBasisOk_erase (s : SeqState) (b : Basis) : measBasisOk (erase s) b = measBasisOk s b := by
  unfold measBasisOk
  simp only [erase_inXY, erase_dev, eraseDev_chans, List.any_map]
  rfl

/-! ### Raw plumbing -/

/-- The erased call reproduces an accepted result. -/
def OkR (r r' : Raw) : Prop := r.err = none → r' = eraseRaw r

/-- `OkR` between functions: `∀ s, OkR (f s) (g (erase s))`. -/
def SimR (f g : SeqState → Raw) : Prop := ∀ s, (f s).err = none → g (erase s) = eraseRaw (f s)

theorem eraseRaw_bind {r : Raw} {f g : SeqState → Raw} (hr : r.err = none) (hs : SimR f g)
    (h : (f r.st).err = none) : (eraseRaw r).bind g = eraseRaw (r.bind f) := by
  unfold Raw.bind
  simp only [eraseRaw, hr]
  exact hs _ h

theorem store_erase (op : Op) (r : Raw) : store op (eraseRaw r) = eraseRaw (store op r) := by
  obtain ⟨st, err, out⟩ := r
  cases err <;> rfl

theorem markNonEmpty_erase (r : Raw) : markNonEmpty (eraseRaw r) = eraseRaw (markNonEmpty r) := by
  obtain ⟨st, err, out⟩ := r
  cases err <;> rfl

theorem eraseRaw_fail (s : SeqState) (e : Err) : eraseRaw (fail s e) = fail (erase s) e := rfl

namespace OkR

theorem done {s : SeqState} : OkR (done s) (done (erase s)) := fun _ => rfl
theorem refused {s : SeqState} {e : Err} {r' : Raw} : OkR (fail s e) r' := nofun

/-- A refusing test: nothing to show where the original call raises, and the erased test fires no
more often. -/
theorem refuse {g g' : Prop} [Decidable g] [Decidable g'] {x x' r r' : Raw}
    (hx : x.err ≠ none) (hg : g' → g) (h : ¬g → OkR r r') : OkR (if g then x else r) (if g' then x' else r') := by
  intro h0
  by_cases hc : g
  · rw [if_pos hc] at h0; exact absurd h0 hx
  · rw [if_neg hc] at h0 ⊢; rw [if_neg (mt hg hc)]; exact h hc h0

theorem guard {g g' : Prop} [Decidable g] [Decidable g'] {s s' : SeqState} {e : Err} {r r' : Raw}
    (hg : g' → g) (h : ¬g → OkR r r') : OkR (if g then fail s e else r) (if g' then fail s' e else r') :=
  refuse nofun hg h

theorem ite {p : Prop} [Decidable p] {r₁ r₂ r₁' r₂' : Raw} (h1 : p → OkR r₁ r₁') (h2 : ¬p → OkR r₂ r₂') :
    OkR (if p then r₁ else r₂) (if p then r₁' else r₂') := by
  split
  · exact h1 ‹_›
  · exact h2 ‹_›

theorem bind {r r' : Raw} {f g : SeqState → Raw} (h : OkR r r') (hf : ∀ s, OkR (f s) (g (erase s))) :
    OkR (r.bind f) (r'.bind g) := by
  intro h0
  obtain ⟨a1, a2⟩ := Raw.bind_ok h0
  rw [h a1]
  exact eraseRaw_bind a1 hf (a2 ▸ h0)

theorem withChan {s : SeqState} {n : ChName} {f g : ChanState → CRes} (h : ∀ c, OkC (f c) (g (eraseChan c))) :
    OkR (s.withChan n f) ((erase s).withChan n g) := by
  unfold SeqState.withChan
  rw [getChan_erase]
  cases s.getChan n with
  | none => exact .refused
  | some c =>
    intro h0
    simp only [Option.map_some, h c h0, eraseCRes, setChan_erase]
    rfl

theorem store {op : Op} {r r' : Raw} (h : OkR r r') : OkR (store op r) (store op r') := by
  intro h0
  rw [store_err] at h0
  rw [h h0, store_erase]

theorem markNonEmpty {r r' : Raw} (h : OkR r r') : OkR (markNonEmpty r) (markNonEmpty r') := by
  intro h0
  rw [markNonEmpty_err] at h0
  rw [h h0, markNonEmpty_erase]

theorem orRollback {s : SeqState} {r r' : Raw} (h : OkR r r') : OkR (r.orRollback s) (r'.orRollback (erase s)) := by
  intro h0
  have h1 : r.err = none := by rw [Raw.orRollback_err] at h0; exact h0
  rw [Raw.orRollback_ok h0, h h1]
  exact Raw.orRollback_ok (by rw [Raw.orRollback_err]; exact h1)

/-- `_validate_channel`, then the rest of the call on the channel found. -/
theorem validated {s : SeqState} {n : ChName} {b : Bool} {k k' : ChanState → Raw}
    (h : ∀ c, OkR (k c) (k' (eraseChan c))) :
    OkR (match s.validateChannel n b with | .error e => fail s e | .ok c => k c)
      (match (erase s).validateChannel n b with | .error e => fail (erase s) e | .ok c => k' c) := by
  cases hv : s.validateChannel n b with
  | error e => exact .refused
  | ok c => rw [validateChannel_okE _ hv]; exact h c

theorem declared {s : SeqState} {n : ChName} {e : Err} {k k' : ChanState → Raw}
    (h : ∀ c, OkR (k c) (k' (eraseChan c))) :
    OkR (match s.getChan n with | none => fail s e | some c => k c)
      (match (erase s).getChan n with | none => fail (erase s) e | some c => k' c) := by
  rw [getChan_erase]
  cases s.getChan n with
  | none => exact .refused
  | some c => exact h c

end OkR

theorem phaseShift_okR {s : SeqState} {phi : Rat} {qs : List Nat} {b : Basis} :
    OkR (s.phaseShift phi qs b) ((erase s).phaseShift phi qs b) := by
  unfold SeqState.phaseShift
  exact .guard id fun _ => .guard id fun _ _ => congrArg done (mapRefs_erase ..)

/-! ### the building calls -/

theorem addCore_okR {s : SeqState} {p : PulseIn} {n : ChName} {proto : Option Protocol} {drift : Option Drift} :
    OkR (addCore s p n proto drift) (addCore (erase s) p n proto drift) := by
  unfold addCore
  cases proto with
  | none => exact .refused
  | some proto =>
    refine .declared fun c => ?_
    rw [eraseChan_last]
    cases c.last with
    | error e => exact .refused
    | ok last =>
      refine .guard id fun _ => ?_
      dsimp only
      cases hv : validateAndAdjust c p _ with
      | error e => exact .refused
      | ok pr =>
        -- stated with the erased arguments as they stand in the goal (equal by unfolding `erase`)
        have hv' : validateAndAdjust (eraseChan c) p (if (eraseChan c).cfg.isDmm = true then none
            else ((erase s).lastPhases (eraseChan c).cfg.basis last.targets).head?) = .ok pr :=
          validateAndAdjust_okE _ hv
        rw [hv']
        simp only [eraseChan_cfg, timing_basis, erase_lastTimes, erase_dev, eraseDev_maxSeqDur, others_erase]
        cases ha : addPulse s.dev.maxSeqDur c _ pr _ proto drift with
        | error e => exact .refused
        | ok c' =>
          simp only [addPulse_okE _ ha, eraseChan_last, setChan_erase, mapRefs_erase]
          cases c'.last with
          | error e => exact .refused
          | ok newSlot => exact .ite (p := totalShift pr.post drift newSlot.ti ≠ 0) (fun _ => phaseShift_okR) fun _ => .done

theorem targetCore_okR {s : SeqState} {qs : List Nat} {n : ChName} :
    OkR (targetCore s qs n) (targetCore (erase s) qs n) := by
  unfold targetCore
  exact .guard id fun _ => .validated fun _ => .guard id fun _ => .guard id fun _ => .guard (by simp [overNat]) fun _ =>
    .guard id fun _ => .guard id fun _ => .withChan fun _ => addTarget_okC

theorem delayCore_okR {s : SeqState} {d : Int} {n : ChName} {atRest : Bool} :
    OkR (delayCore s d n atRest) (delayCore (erase s) d n atRest) := by
  unfold delayCore
  refine .guard id fun _ => .validated fun _ =>
    .bind (.ite (fun _ => .withChan fun _ => .lift waitForFall_okE) fun _ => .done) fun s =>
      .ite (fun _ => .done) fun _ => .withChan fun c => .lift (.ite (fun _ => ?_) fun _ => addDelay_okE)
  exact .bind last_okE fun _ => .error

theorem delayChecked_okR {s : SeqState} {d : Int} {n : ChName} {atRest : Bool} :
    OkR (delayChecked s d n atRest) (delayChecked (erase s) d n atRest) := by
  unfold delayChecked
  refine .ite (fun _ => ?_) fun _ => delayCore_okR
  cases hv : s.validateChannel n false with
  | error e =>
    -- the unchecked call reports the missing channel itself
    have : (delayCore s d n atRest).err ≠ none := by
      unfold delayCore
      rw [hv]
      intro h0
      rw [(Raw.guard_ok h0).2] at h0
      cases h0
    exact fun h0 => absurd h0 this
  | ok c =>
    rw [validateChannel_okE _ hv]
    dsimp only
    cases hd : (if d < 0 then (.error .durTooShort : Except Err Nat) else validateDuration c.cfg d.toNat) with
    | error e => exact .refused
    | ok r =>
      rw [show (if d < 0 then (.error .durTooShort : Except Err Nat) else validateDuration (eraseChan c).cfg d.toNat)
        = .ok r from OkE.ite (e := id) (fun _ => .error) (fun _ => validateDuration_okE) r hd]
      exact delayCore_okR

theorem alignLoop_okR (tf : Int) (l : List (ChName × Int)) (s : SeqState) :
    OkR (alignLoop tf l s) (alignLoop tf l (erase s)) := by
  induction l generalizing s with
  | nil => exact .done
  | cons x rest ih =>
    unfold alignLoop
    refine .declared fun c => .ite (fun _ => ?_) fun _ => ih s
    cases ha : c.adjust (tf - c.getDuration false).toNat with
    | error e => exact .refused
    | ok dd =>
      rw [show (eraseChan c).adjust (tf - (eraseChan c).getDuration false).toNat = .ok dd from adjust_okE _ ha]
      exact .bind delayCore_okR ih

/-! ### declarations -/

theorem occupied_erase (s : SeqState) (b : Bool) (id : Nat) : (erase s).occupied b id = s.occupied b id := by
  unfold SeqState.occupied
  simp only [erase_chans, List.any_map]
  rfl

theorem available_erase {s : SeqState} {b : Bool} {id : Nat} {cfg : ChanCfg}
    (h : s.available b id cfg = true) : (erase s).available b id (timing cfg) = true := by
  unfold SeqState.available at h ⊢
  show (if (!s.inXY && !s.inIsing) = true then true
        else (!((erase s).occupied b id) || true) &&
          (if s.inXY = true then cfg.basis == Basis.xy || b else cfg.basis != Basis.xy)) = true
  by_cases h0 : (!s.inXY && !s.inIsing) = true
  · rw [if_pos h0]
  · rw [if_neg h0] at h ⊢
    simp only [Bool.and_eq_true] at h
    simp [h.2]

theorem not_available_erase {s : SeqState} {b : Bool} {id : Nat} {cfg : ChanCfg}
    (h : (!(erase s).available b id (timing cfg)) = true) : (!s.available b id cfg) = true := by
  cases ha : s.available b id cfg with
  | false => rfl
  | true => rw [available_erase ha] at h; cases h

theorem freshChan_erase (name : ChName) (id : Nat) (cfg : ChanCfg) (qs : List Nat) (w : Bool) (a b : Rat) :
    SeqState.freshChan name id (timing cfg) qs w a b = eraseChan (SeqState.freshChan name id cfg qs w a b) := rfl

theorem addChannel_erase (s : SeqState) (c : ChanState) :
    (erase s).addChannel (eraseChan c) = erase (s.addChannel c) := by
  unfold SeqState.addChannel
  rw [← ensureBasis_erase]
  refine congrArg (SeqState.ensureBasis · c.cfg.basis) ?_
  dsimp only [eraseChan_cfg, timing_basis]
  by_cases hb : (c.cfg.basis == Basis.xy) = true <;> simp [erase, hb]

theorem filter_len_erase (l : List ChanState) (p : ChanState → Bool) (hp : ∀ c, p (eraseChan c) = p c) :
    ((l.map eraseChan).filter p).length = (l.filter p).length := by
  rw [List.filter_map, List.length_map, show p ∘ eraseChan = p from funext hp]

/-! ### one API call -/

theorem step_declare_okR {s : SeqState} {name : ChName} {chId : Nat} {init : Option (List Nat)} :
    OkR (stepRaw s (.declare name chId init)) (stepRaw (erase s) (.declare name chId init)) := by
  refine .guard id fun _ => ?_
  cases name with
  | dmm a b => exact .refused
  | user u =>
    refine .guard (by rw [getChan_erase, Option.isSome_map]; exact id) fun _ => ?_
    rw [show (erase s).dev.chans[chId]? = s.dev.chans[chId]?.map timing from List.getElem?_map]
    cases s.dev.chans[chId]? with
    | none => exact .refused
    | some cfg =>
      refine .refuse (fun h => ?_) not_available_erase fun _ => ?_
      · rw [(Raw.guard_ok h).2] at h
        rw [(Raw.guard_ok h).2] at h
        cases h
      rw [erase_allQubits, timing_isLocal, freshChan_erase, addChannel_erase]
      refine .store (.ite (p := (!cfg.isLocal) = true) (fun _ => .done) fun _ => ?_)
      cases init with
      | none => exact .done
      | some qs => exact .orRollback targetCore_okR

theorem step_configDetMap_okR {s : SeqState} {dmmId : Nat} {w1 w2 : Rat} :
    OkR (stepRaw s (.configDetMap dmmId w1 w2)) (stepRaw (erase s) (.configDetMap dmmId w1 w2)) := by
  refine .guard id fun _ => ?_
  rw [show (erase s).dev.dmms[dmmId]? = s.dev.dmms[dmmId]?.map timing from List.getElem?_map]
  cases s.dev.dmms[dmmId]? with
  | none => exact .refused
  | some cfg =>
    refine .guard id fun _ => .guard not_available_erase fun _ => ?_
    dsimp only
    rw [erase_chans, filter_len_erase _ _ (fun c => rfl), erase_allQubits, freshChan_erase, addChannel_erase]
    exact .store .done

theorem step_addEom_okR {s : SeqState} {n : ChName} {dur : Nat} {phase post : Rat} {proto : Option Protocol}
    {corr : Bool} {fs fe ref : Nat} :
    OkR (stepRaw s (.addEom n dur phase post proto corr fs fe ref))
      (stepRaw (erase s) (.addEom n dur phase post proto corr fs fe ref)) := by
  refine .store (.markNonEmpty (.guard id fun _ => .validated fun c => ?_))
  rw [eraseChan_eom]
  cases c.eom.getLast? with
  | none => exact .refused
  | some b => exact .guard id fun _ => addCore_okR

/-- The drift correction after an EOM buffer: reads the last slot of the channel, which erasure keeps. -/
theorem driftShift_okR {s1 : SeqState} {n : ChName} {corr : Bool} {f : Slot → Rat} {b : Basis} :
    OkR (if corr = true then
          match (s1.getChan n).bind (·.slots.getLast?) with
          | some buf => s1.phaseShift (f buf) buf.targets b
          | none => fail s1 .noTarget
        else done s1)
      (if corr = true then
          match ((erase s1).getChan n).bind (·.slots.getLast?) with
          | some buf => (erase s1).phaseShift (f buf) buf.targets b
          | none => fail (erase s1) .noTarget
        else done (erase s1)) := by
  refine .ite (fun _ => ?_) fun _ => .done
  rw [getLast_erase]
  split
  · exact phaseShift_okR
  · exact .refused

theorem step_enableEom_okR {s : SeqState} {n : ChName} {e : EomIn} :
    OkR (stepRaw s (.enableEom n e)) (stepRaw (erase s) (.enableEom n e)) := by
  refine .guard id fun _ => .validated fun c => .guard id fun _ => .guard id fun _ => ?_
  cases hp : processEomParams c e with
  | error er => exact .refused
  | ok detOff =>
    rw [processEomParams_okE _ hp]
    exact .orRollback (.bind (.withChan fun _ => enableEom_okC) fun s1 => .store driftShift_okR)

theorem step_modifyEom_okR {s : SeqState} {n : ChName} {e : EomIn} :
    OkR (stepRaw s (.modifyEom n e)) (stepRaw (erase s) (.modifyEom n e)) := by
  refine .guard id fun _ => .validated fun c => .guard id fun _ => ?_
  cases hp : processEomParams c e with
  | error er => exact .refused
  | ok detOff =>
    rw [processEomParams_okE _ hp]
    exact .orRollback (.bind (.withChan fun _ => disableEom_okC) fun s1 => .declared fun c1 =>
      .bind (.withChan fun _ => enableEom_okC) fun s2 => .store driftShift_okR)

theorem step_disableEom_okR {s : SeqState} {n : ChName} {corr : Bool} :
    OkR (stepRaw s (.disableEom n corr)) (stepRaw (erase s) (.disableEom n corr)) := by
  refine .store (.orRollback (.guard id fun _ => .validated fun c => .guard id fun _ =>
    .bind (.withChan fun _ => disableEom_okC) fun s1 => .ite (fun _ => .declared fun c1 => ?_) fun _ => .done))
  show OkR (match c1.slots.getLast? with | some l => _ | none => _) (match c1.slots.getLast? with | some l => _ | none => _)
  split
  · exact phaseShift_okR
  · exact .refused

theorem estimateCore_okR {s : SeqState} {p : PulseIn} {c : ChanState} {proto : Protocol} :
    OkR (estimateCore s p c proto) (estimateCore (erase s) p (eraseChan c) proto) := by
  unfold estimateCore
  rw [eraseChan_last]
  cases c.last with
  | error e => exact .refused
  | ok last =>
    refine .guard id fun _ => ?_
    dsimp only
    cases hv : validateAndAdjust c p _ with
    | error e => exact .refused
    | ok pr =>
      have hv' : validateAndAdjust (eraseChan c) p (if (eraseChan c).cfg.isDmm = true then none
          else ((erase s).lastPhases (eraseChan c).cfg.basis last.targets).head?) = .ok pr :=
        validateAndAdjust_okE _ hv
      rw [hv']
      simp only [eraseChan_cfg, eraseChan_name, timing_basis, erase_lastTimes, erase_dev, eraseDev_maxSeqDur,
        others_erase]
      cases hs : makeNextPulseSlot s.dev.maxSeqDur c _ pr _ proto none false with
      | error e => exact .refused
      | ok slot => rw [makeNextPulseSlot_okE _ hs]; exact fun _ => rfl

theorem stepRaw_okR (s : SeqState) (op : Op) : OkR (stepRaw s op) (stepRaw (erase s) op) := by
  cases op with
  | declare name chId init => exact step_declare_okR
  | configDetMap d a b => exact step_configDetMap_okR
  | target qs n => exact .store (.orRollback targetCore_okR)
  | add p n pr | addDmm p n pr =>
    -- the two calls differ in the flag given to `validateChannel` (the `_` below) and in the test of the channel class
    exact .store (.markNonEmpty (.guard id fun _ => .validated fun _ => .guard id fun _ => addCore_okR))
  | addEom n d ph po pr c fs fe r => exact step_addEom_okR
  | delay d n a => exact .store (.orRollback delayChecked_okR)
  | align chs atRest =>
    simp only [stepRaw, getChan_erase, Option.isNone_map, Option.map_map, Function.comp_def, eraseChan_getDuration]
    refine .store (.orRollback (.guard id fun _ => .guard id fun _ => .guard id fun _ => .guard id fun _ => ?_))
    split
    · exact .done
    · exact alignLoop_okR _ _ _
  | phaseShift phi qs b => exact .store phaseShift_okR
  | enableEom n e => exact step_enableEom_okR
  | modifyEom n e => exact step_modifyEom_okR
  | disableEom n c => exact step_disableEom_okR
  | measure b =>
    refine .store (.guard id fun _ => ?_)
    rw [measBasisOk_erase]
    exact .guard id fun _ _ => rfl
  | getDuration ch fall =>
    cases ch with
    | none => exact fun _ => congrArg (fun l => Raw.mk (erase s) none (some (maxList 0 l))) List.map_map
    | some n => exact .declared fun c _ => rfl
  | estimate p n proto =>
    refine .validated fun c => ?_
    cases proto with
    | none => exact .refused
    | some pr => exact estimateCore_okR
  | phaseRef q b =>
    refine .guard id fun _ => ?_
    rw [erase_getRefs]
    cases s.getRefs b <;> exact fun _ => rfl

/-- **Erasing the limits is a simulation**: a call that is accepted on `s` is accepted on the
limit-free state `erase s` and leaves it in the erased post-state, with the same returned value. -/
theorem stepRaw_erase (s : SeqState) (op : Op) (h : (stepRaw s op).err = none) :
    stepRaw (erase s) op = eraseRaw (stepRaw s op) := stepRaw_okR s op h

/-- Histories of accepted calls commute with erasure. -/
theorem run_erase (s : SeqState) (ops : List Op) (h : allOk s ops = true) :
    run (erase s) ops = erase (run s ops) := by
  induction ops generalizing s with
  | nil => rfl
  | cons op rest ih =>
    simp only [allOk, Bool.and_eq_true, Option.isNone_iff_eq_none] at h
    have e := stepRaw_erase s op h.1
    simp only [run, List.foldl_cons] at ih ⊢
    rw [e]
    exact ih _ h.2

theorem timeline_erase (s : SeqState) : timeline (erase s) = timeline s := by
  unfold timeline
  simp only [erase_chans, List.map_map, erase_refs, erase_measured]
  rfl

end Switch
end Pulser
